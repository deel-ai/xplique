/-
  C14 — Deletion / Insertion follow the documented curve, and only the ranking matters.

  `Causal.detailedImpl` / `aucImpl` model `CausalFidelity.detailed_evaluate` / `evaluate`
  (feature-count arithmetic GENERATED from the source); `detailedSpec`, `curveSpec`, `trapzSpec`
  are the reference definitions.  All statements hold for every number of samples, feature
  count, channel count, score function, step list and batch size.

  Parameters standing for library behaviour (hypotheses, see each theorem):
  * `op` — the batched operator is per-sample (`hop : ∀ b, op b = b.map …`);
  * `sort` — NumPy's argsort: any procedure whose result depends on the keys only through the
    comparisons (`rank_only` needs nothing else), resp. any correct sort (`SortOK`) for
    `endpoint_end`, `duality`; tie order is left unspecified;
  * the step counts — NumPy's `linspace(.., dtype=int32)` output is a parameter `steps`; its
    idealisation `linspaceFloor` is shown to be evenly spaced (`steps_spacing`), the harness
    judges the observed counts with `stepsOk` (`stepsOk_sound`).
-/
import XpModel.Causal
import XpProofs.Lemmas.Batching
import XpProofs.Lemmas.Vec
import XpProofs.Lemmas.Causal
import Mathlib.Tactic.Linarith
import Mathlib.Algebra.Order.BigOperators.Group.List

namespace Xp.Causal

/-- `max_nb_perturbed = ⌊p · F⌋` for `p = pn / pd`: it is the natural-number quotient, i.e. the
    unique `M` with `M · pd ≤ F · pn < (M + 1) · pd`. About the GENERATED `Gen.causalMaxNb`. -/
theorem causal_max_nb_spec (nf pn pd : Nat) (hpd : 0 < pd) :
    maxNb nf pn pd = nf * pn / pd ∧
    maxNb nf pn pd * pd ≤ nf * pn ∧ nf * pn < (maxNb nf pn pd + 1) * pd := by
  have h : maxNb nf pn pd = nf * pn / pd := by
    rw [maxNb, Gen.causalMaxNb, ← Nat.cast_mul, ← Int.ofNat_fdiv, Int.toNat_natCast]
  rw [h, Nat.mul_comm (nf * pn / pd + 1) pd]
  exact ⟨rfl, Nat.div_mul_le_self _ _, Nat.lt_mul_div_succ _ hpd⟩

/-- with `max_percentage ≤ 1` at most all features are perturbed -/
theorem causal_max_nb_le (nf pn pd : Nat) (hpd : 0 < pd) (hp : pn ≤ pd) : maxNb nf pn pd ≤ nf := by
  rw [(causal_max_nb_spec nf pn pd hpd).1]
  calc nf * pn / pd ≤ nf * pd / pd := Nat.div_le_div_right (Nat.mul_le_mul_left nf hp)
    _ = nf := Nat.mul_div_cancel nf hpd

/-- the `steps == -1` rule: `-1` means "one step per perturbed feature", any other (non-negative)
    value is kept. About the GENERATED `Gen.causalSteps`. -/
theorem causal_steps_rule (M : Nat) :
    nbSteps (-1) M = M ∧ ∀ s : Nat, nbSteps (s : Int) M = s := by
  refine ⟨Int.toNat_natCast M, fun s => ?_⟩
  have : ¬ ((s : Int) = -1) := by omega
  rw [nbSteps, Gen.causalSteps, if_neg this, Int.toNat_natCast]

/-- the source asks NumPy for `S + 1` points from `0` to `max_nb_perturbed` (GENERATED arguments) -/
theorem causal_lin_args (M S : Nat) :
    linArgs M S = (0, (M : Int), (S : Int) + 1) ∧ linspaceOf (linArgs M S) = linspaceFloor M S := by
  refine ⟨rfl, (linspaceOf_zero (M : Int) ((S : Int) + 1) (by omega)).trans ?_⟩
  rw [Int.toNat_natCast, Int.toNat_natCast_add_one, Nat.add_sub_cancel]

/-- the idealised step counts `⌊j·M/S⌋` are `S+1` values running from `0` to
    `M`, non-decreasing, each within one unit below the exact position `j·M/S`
    (`k_j·S ≤ j·M < (k_j+1)·S`), and they pass the executable test applied to the observed keys. -/
theorem steps_spacing (M S : Nat) (hS : 0 < S) :
    (linspaceFloor M S).length = S + 1 ∧
    (linspaceFloor M S).getD 0 1 = 0 ∧ (linspaceFloor M S).getD S (M + 1) = M ∧
    (∀ j, j ≤ S → (linspaceFloor M S).getD j 0 * S ≤ j * M ∧ j * M < ((linspaceFloor M S).getD j 0 + 1) * S) ∧
    (∀ j, j < S → (linspaceFloor M S).getD j 0 ≤ (linspaceFloor M S).getD (j + 1) 0) ∧
    stepsOk M S (linspaceFloor M S) = true := by
  have hb : ∀ j, j ≤ S → (linspaceFloor M S).getD j 0 * S ≤ j * M ∧
      j * M < ((linspaceFloor M S).getD j 0 + 1) * S := by
    intro j hj
    rw [linspaceFloor_getD M S j 0 hj]
    exact ⟨Nat.div_mul_le_self _ _, by rw [Nat.mul_comm _ S]; exact Nat.lt_mul_div_succ _ hS⟩
  have hm : ∀ j, j < S → (linspaceFloor M S).getD j 0 ≤ (linspaceFloor M S).getD (j + 1) 0 := by
    intro j hj
    rw [linspaceFloor_getD M S j 0 hj.le, linspaceFloor_getD M S (j + 1) 0 hj]
    exact Nat.div_le_div_right (Nat.mul_le_mul_right M (Nat.le_succ j))
  have h0 : (linspaceFloor M S).getD 0 1 = 0 := by
    rw [linspaceFloor_getD M S 0 1 (Nat.zero_le _), Nat.zero_mul, Nat.zero_div]
  have hl : (linspaceFloor M S).getD S (M + 1) = M := by
    rw [linspaceFloor_getD M S S _ le_rfl]; exact Nat.mul_div_cancel_left M hS
  exact ⟨linspaceFloor_length M S, h0, hl, hb, hm, (stepsOk_iff M S _).mpr ⟨linspaceFloor_length M S, h0, Or.inr hl,
    fun j hj => ⟨(hb j (Nat.le_of_lt_succ hj)).1, (hb j (Nat.le_of_lt_succ hj)).2.le⟩, hm⟩⟩

theorem stepsOk_sound (M S : Nat) (ks : List Nat) (h : stepsOk M S ks = true) :
    ks.length = S + 1 ∧ ks.getD 0 1 = 0 ∧ (0 < S → ks.getD S (M + 1) = M) ∧
    (∀ j, j ≤ S → ks.getD j 0 * S ≤ j * M ∧ j * M ≤ (ks.getD j 0 + 1) * S) ∧
    (∀ j, j < S → ks.getD j 0 ≤ ks.getD (j + 1) 0) := by
  obtain ⟨h1, h2, h3, h4, h5⟩ := (stepsOk_iff M S ks).mp h
  exact ⟨h1, h2, fun hS => h3.resolve_left (Nat.pos_iff_ne_zero.mp hS), fun j hj => h4 j (Nat.lt_succ_of_le hj), h5⟩

/-- one point of the curve: flipping by row assignment and batched inference (any batch size)
    give the mean score of the samples whose `k` highest-ranked features come from `end_` -/
theorem causal_point_spec (op : List (List Rat × List Rat) → List Rat) (g : List Rat → List Rat → Rat)
    (hop : ∀ b, op b = b.map fun p => g p.1 p.2) (bs : Option Nat) (hbs : ∀ b, bs = some b → 0 < b)
    (ss : List Sample) (k : Nat) : pointImpl op bs ss k = curveSpec g ss k := by
  unfold pointImpl curveSpec
  rw [batched_eq_map op (fun p => g p.1 p.2) hop bs hbs, List.map_map]
  simp only [Function.comp_def, flipImpl_eq_flipSpec]

/-- `detailed_evaluate` (model) returns, for every list of step counts
    (so for `steps = -1`, `steps > features`, repeated counts …), every batch size and every
    per-sample operator, the dict `first occurrences of the counts ↦ reference curve value`. -/
theorem causal_curve_spec (op : List (List Rat × List Rat) → List Rat) (g : List Rat → List Rat → Rat)
    (hop : ∀ b, op b = b.map fun p => g p.1 p.2) (bs : Option Nat) (hbs : ∀ b, bs = some b → 0 < b)
    (ss : List Sample) (steps : List Nat) :
    detailedImpl op bs ss steps = detailedSpec g ss steps := by
  unfold detailedImpl detailedSpec
  simp only [causal_point_spec op g hop bs hbs]
  exact dict_loop (curveSpec g ss) steps

/-- the result does not depend on the batch size (exported to C03) -/
theorem causal_bs_indep (op : List (List Rat × List Rat) → List Rat) (g : List Rat → List Rat → Rat)
    (hop : ∀ b, op b = b.map fun p => g p.1 p.2) (b : Nat) (hb : 0 < b)
    (ss : List Sample) (steps : List Nat) :
    detailedImpl op (some b) ss steps = detailedImpl op none ss steps :=
  bs_indep_of_spec (fun bs => detailedImpl op bs ss steps) _
    (fun bs hbs => causal_curve_spec op g hop bs hbs ss steps) hb

/-- every sample contributes separately: the curve value is the mean of per-sample scores -/
theorem causal_per_sample (g : List Rat → List Rat → Rat) (ss : List Sample) (k : Nat) :
    curveSpec g ss k * (ss.length : Rat)
      = sumQ (ss.map fun s => g (flipSpec s.start s.end_ (s.order.take k)).flatten s.y) := by
  rw [← meanQ_mul_length, List.length_map]; rfl

/-- `evaluate` is the composite trapezoidal mean of the curve values
    (end points weighted ½, divided by the number of intervals); a one-point curve has no area. -/
theorem auc_trapezoid (vals : List Rat) :
    (2 ≤ vals.length → aucImpl vals = some (trapzSpec vals)) ∧ (vals.length ≤ 1 → aucImpl vals = none) := by
  have hl := pairs_length vals
  constructor
  · intro h
    rw [aucImpl, if_neg (by omega)]
    cases vals with
    | nil => cases h
    | cons a l =>
      -- `(2Σ − a − z)/n · ½ = (Σ − (a + z)/2)/n` for every `n`, so `n ≠ 0` is not needed
      rw [meanQ, trapzSpec, hl, pairs_sum a l, List.length_cons, Nat.add_sub_cancel, Nat.cast_succ,
        List.headD_cons]
      congr 1
      ring
  · intro h
    rw [aucImpl, if_pos (by omega)]

/-- a strictly monotone transformation of a sample's feature scores leaves its
    ranking unchanged, for ANY sorting procedure (a comparison sort sees the keys only through
    `leIdx`, which is unchanged; ties stay ties) … -/
theorem rank_only (sort : (Nat → Nat → Bool) → List Nat → List Nat) (φ : Rat → Rat) (hφ : StrictMono φ)
    (e : List Rat) : argsortDescWith sort (e.map φ) = argsortDescWith sort e := by
  unfold argsortDescWith
  rw [leIdx_map φ hφ, List.length_map]

/-- … hence the whole metric (dict and AUC) is unchanged (explanations without channel axis, or
    after the channel mean) -/
theorem rank_only_metric (sort : (Nat → Nat → Bool) → List Nat → List Nat) (φ : Rat → Rat)
    (hφ : StrictMono φ) (deletion : Bool) (c : Nat) (xs bases es ys : List (List Rat))
    (op : List (List Rat × List Rat) → List Rat) (bs : Option Nat) (steps : List Nat) :
    detailedImpl op bs (mkSamples sort deletion c none xs bases (es.map (List.map φ)) ys) steps
      = detailedImpl op bs (mkSamples sort deletion c none xs bases es ys) steps := by
  have : mkSamples sort deletion c none xs bases (es.map (List.map φ)) ys
      = mkSamples sort deletion c none xs bases es ys := by
    unfold mkSamples
    rw [List.zip_map_left, List.zipWith_map_right]
    congr 1
    funext p q
    simp only [Prod.map_fst, Prod.map_snd, id, rank_only sort φ hφ]
  rw [this]

/-- at count 0 the curve is the mean score of the start state
    (original inputs for Deletion, baselines for Insertion) -/
theorem endpoint_start (g : List Rat → List Rat → Rat) (ss : List Sample) :
    curveSpec g ss 0 = meanQ (ss.map fun s => g s.start.flatten s.y) := by
  unfold curveSpec
  simp only [List.take_zero, flipSpec_nil]

/-- when all `F` features are perturbed (`max_percentage = 1`) the last point
    is the mean score of the end state, whatever the ranking (any permutation of the features) -/
theorem endpoint_end (g : List Rat → List Rat → Rat) (F : Nat) (ss : List Sample)
    (h : ∀ s ∈ ss, s.start.length = F ∧ s.end_.length = F ∧ s.order.Perm (List.range F)) :
    curveSpec g ss F = meanQ (ss.map fun s => g s.end_.flatten s.y) := by
  unfold curveSpec
  congr 1
  apply List.map_congr_left
  intro s hs
  obtain ⟨h1, h2, h3⟩ := h s hs
  have hlen : s.order.length = F := by rw [h3.length_eq, List.length_range]
  rw [List.take_of_length_le (by omega),
    flipSpec_all s.start s.end_ s.order (h1.trans h2.symm)
      (fun i hi => h3.mem_iff.mpr (List.mem_range.mpr (h1 ▸ hi)))]

/-- for tie-free explanations and any correct sort, Insertion with `e` at feature
    count `c` equals Deletion with `-e` at feature count `F - c` (stated on feature counts, i.e.
    dict keys), for every score and baseline. `cases` lists `(x rows, baseline rows, e, y)`. -/
theorem duality (sort : (Nat → Nat → Bool) → List Nat → List Nat) (hsort : SortOK sort)
    (g : List Rat → List Rat → Rat) (F : Nat)
    (cases : List (List (List Rat) × List (List Rat) × List Rat × List Rat))
    (h : ∀ q ∈ cases, q.1.length = F ∧ q.2.1.length = F ∧ q.2.2.1.length = F ∧ q.2.2.1.Nodup)
    (c : Nat) (hc : c ≤ F) :
    curveSpec g (cases.map fun q =>
        { start := q.2.1, end_ := q.1, order := argsortDescWith sort q.2.2.1, y := q.2.2.2 : Sample }) c
      = curveSpec g (cases.map fun q =>
        { start := q.1, end_ := q.2.1, order := argsortDescWith sort (q.2.2.1.map fun v => -v),
          y := q.2.2.2 : Sample }) (F - c) := by
  unfold curveSpec
  rw [List.map_map, List.map_map]
  congr 1
  apply List.map_congr_left
  intro q hq
  obtain ⟨h1, h2, h3, h4⟩ := h q hq
  simp only [Function.comp]
  rw [argsort_neg sort hsort _ h4,
    flip_dual F c q.1 q.2.1 _ h1 h2 (h3 ▸ argsort_perm sort hsort q.2.2.1) hc]

/-- Deletion optimum: score additive over features, features ranked by decreasing
    exact attribution `a_i = g_i(x_i) − g_i(base_i)` (ties in any order): after deleting the first
    `k` features the score is ≤ the score reached by ANY other ordering `σ`, for every `k`. -/
theorem additive_optimal_deletion (F C : Nat) (f : List Rat → Rat) (c0 : Rat) (gi : Nat → List Rat → Rat)
    (hadd : FeatAdditive F C f c0 gi) (x base : List (List Rat)) (hx : x.length = F) (hb : base.length = F)
    (hxu : ∀ r ∈ x, r.length = C) (hbu : ∀ r ∈ base, r.length = C)
    (o σ : List Nat) (ho : o.Perm (List.range F)) (hσ : σ.Perm (List.range F))
    (hsorted : o.Pairwise fun i j =>
      gi i (x.getD i []) - gi i (base.getD i []) ≥ gi j (x.getD j []) - gi j (base.getD j [])) (k : Nat) :
    f (flipSpec x base (o.take k)).flatten ≤ f (flipSpec x base (σ.take k)).flatten := by
  rw [score_flip F C f c0 gi hadd x base hx hb hxu hbu o ho k, score_flip F C f c0 gi hadd x base hx hb hxu hbu σ hσ k]
  exact sub_le_sub_left (topk_sum_ge (fun i => gi i (x.getD i []) - gi i (base.getD i [])) F o σ ho hσ hsorted k) _

/-- Insertion optimum, the symmetric statement: inserting the `k` features with the
    largest exact attributions onto the baseline gives a score ≥ that of any other ordering. -/
theorem additive_optimal_insertion (F C : Nat) (f : List Rat → Rat) (c0 : Rat) (gi : Nat → List Rat → Rat)
    (hadd : FeatAdditive F C f c0 gi) (x base : List (List Rat)) (hx : x.length = F) (hb : base.length = F)
    (hxu : ∀ r ∈ x, r.length = C) (hbu : ∀ r ∈ base, r.length = C)
    (o σ : List Nat) (ho : o.Perm (List.range F)) (hσ : σ.Perm (List.range F))
    (hsorted : o.Pairwise fun i j =>
      gi i (x.getD i []) - gi i (base.getD i []) ≥ gi j (x.getD j []) - gi j (base.getD j [])) (k : Nat) :
    f (flipSpec base x (σ.take k)).flatten ≤ f (flipSpec base x (o.take k)).flatten :=
  -- Insertion for `f` is Deletion for `-f` with the roles of input and baseline exchanged
  neg_le_neg_iff.mp (additive_optimal_deletion F C _ _ _ hadd.neg base x hb hx hbu hxu o σ ho hσ
    (hsorted.imp fun h => by rwa [neg_sub_neg, neg_sub_neg]) k)

theorem curve_mono (g : List Rat → List Rat → Rat) (ss ss' : List Sample) (k k' : Nat)
    (h : List.Forall₂ (fun s s' => g (flipSpec s.start s.end_ (s.order.take k)).flatten s.y
            ≤ g (flipSpec s'.start s'.end_ (s'.order.take k')).flatten s'.y) ss ss') :
    curveSpec g ss k ≤ curveSpec g ss' k' := by
  unfold curveSpec meanQ
  rw [List.length_map, List.length_map, h.length_eq, sumQ_eq_sum, sumQ_eq_sum]
  refine div_le_div_of_nonneg_right (List.Forall₂.sum_le_sum ?_) (Nat.cast_nonneg _)
  rwa [List.forall₂_map_left_iff, List.forall₂_map_right_iff]

/-- the optimum at the level of the metric: `ss` and `ss'` hold the same samples (same start / end
    states and labels) with different rankings; every sample's score is feature-additive and the
    rankings in `ss` are by decreasing exact attribution of the start→end change
    (`g_i(start_i) − g_i(end_i)`: Deletion with `e = w·(x − base)`). Then at EVERY feature count the
    curve of `ss` lies below the curve of `ss'` (any other orderings), hence so does the AUC. -/
theorem additive_optimal_curve (F C : Nat) (g : List Rat → List Rat → Rat) (ss ss' : List Sample)
    (hlen : ss.length = ss'.length)
    (h : ∀ p ∈ ss.zip ss', p.1.start = p.2.start ∧ p.1.end_ = p.2.end_ ∧ p.1.y = p.2.y ∧
      p.1.start.length = F ∧ p.1.end_.length = F ∧
      (∀ r ∈ p.1.start, r.length = C) ∧ (∀ r ∈ p.1.end_, r.length = C) ∧
      p.1.order.Perm (List.range F) ∧ p.2.order.Perm (List.range F) ∧
      ∃ c0 gi, FeatAdditive F C (fun z => g z p.1.y) c0 gi ∧
        p.1.order.Pairwise fun i j =>
          gi i (p.1.start.getD i []) - gi i (p.1.end_.getD i []) ≥
          gi j (p.1.start.getD j []) - gi j (p.1.end_.getD j []))
    (k : Nat) : curveSpec g ss k ≤ curveSpec g ss' k := by
  refine curve_mono g ss ss' k k (List.forall₂_iff_zip.mpr ⟨hlen, fun {s s'} hp => ?_⟩)
  obtain ⟨h1, h2, h3, h4, h5, h6, h7, h8, h9, c0, gi, hadd, hsorted⟩ := h (s, s') hp
  rw [← h1, ← h2, ← h3]
  exact additive_optimal_deletion F C (fun z => g z s.y) c0 gi hadd s.start s.end_ h4 h5 h6 h7
    s.order s'.order h8 h9 hsorted k

/-- mirror statement (Insertion with `e = w·(x − base)`: rankings by decreasing `g_i(end_i) − g_i(start_i)`):
    the curve of `ss` lies above the curve of any other orderings at every feature count -/
theorem additive_optimal_curve_ins (F C : Nat) (g : List Rat → List Rat → Rat) (ss ss' : List Sample)
    (hlen : ss.length = ss'.length)
    (h : ∀ p ∈ ss.zip ss', p.1.start = p.2.start ∧ p.1.end_ = p.2.end_ ∧ p.1.y = p.2.y ∧
      p.1.start.length = F ∧ p.1.end_.length = F ∧
      (∀ r ∈ p.1.start, r.length = C) ∧ (∀ r ∈ p.1.end_, r.length = C) ∧
      p.1.order.Perm (List.range F) ∧ p.2.order.Perm (List.range F) ∧
      ∃ c0 gi, FeatAdditive F C (fun z => g z p.1.y) c0 gi ∧
        p.1.order.Pairwise fun i j =>
          gi i (p.1.end_.getD i []) - gi i (p.1.start.getD i []) ≥
          gi j (p.1.end_.getD j []) - gi j (p.1.start.getD j []))
    (k : Nat) : curveSpec g ss' k ≤ curveSpec g ss k := by
  refine curve_mono g ss' ss k k (List.forall₂_iff_zip.mpr ⟨hlen, fun {s s'} hp => ?_⟩).flip
  obtain ⟨h1, h2, h3, h4, h5, h6, h7, h8, h9, c0, gi, hadd, hsorted⟩ := h (s, s') hp
  rw [flip, ← h1, ← h2, ← h3]
  exact additive_optimal_insertion F C (fun z => g z s.y) c0 gi hadd s.end_ s.start h5 h4 h7 h6
    s.order s'.order h8 h9 hsorted k

/-- in the re-flattened perturbed input, flat position `k` belongs to
    feature `k / C`; it holds the `end_` value iff that feature was selected: all `C` channels of
    a pixel are replaced together, never a single channel. -/
theorem channels_together (C : Nat) (hC : 0 < C) (s e : List (List Rat)) (ids : List Nat)
    (hlen : s.length = e.length) (hs : ∀ r ∈ s, r.length = C) (he : ∀ r ∈ e, r.length = C)
    (k : Nat) (hk : k < s.length * C) :
    (flipSpec s e ids).flatten.getD k 0
      = if ids.contains (k / C) then e.flatten.getD k 0 else s.flatten.getD k 0 := by
  have hkC : k / C < s.length := by
    rw [Nat.div_lt_iff_lt_mul hC]; exact hk
  have hrows := flipSpec_uniform C s e ids hlen hs he
  rw [flatten_getD_uniform _ C hC hrows, flatten_getD_uniform e C hC he, flatten_getD_uniform s C hC hs,
    flipSpec_getD s e ids (k / C) hkC]
  split <;> rfl

/-- explanations without channel axis and with a channel axis of size 1 are treated alike -/
theorem channel_axis_one (sort : (Nat → Nat → Bool) → List Nat → List Nat) (deletion : Bool) (c : Nat)
    (xs bases es ys : List (List Rat)) :
    mkSamples sort deletion c (some 1) xs bases es ys = mkSamples sort deletion c none xs bases es ys := by
  unfold mkSamples
  simp only [chanMean_one]

/-! ### non-vacuity -/

example : SortOK (fun le l => l.mergeSort le) := mergeSort_ok
example : StrictMono (fun x : Rat => 2 * x + 1) := fun a b h => by simp only; linarith
example : ([3, -1, 7, 0] : List Rat).Nodup := by decide +kernel
example : argsortDesc ([3, -1, 7, 0].map fun v => -v) = (argsortDesc [3, -1, 7, 0]).reverse :=
  argsort_neg _ mergeSort_ok _ (by decide +kernel)
example : linspaceFloor 7 3 = [0, 2, 4, 7] ∧ stepsOk 2 98 (linspaceFloor 2 98) = true :=
  ⟨by decide +kernel, (steps_spacing 2 98 (by decide)).2.2.2.2.2⟩
example : dedupKeys (linspaceFloor 2 5) = [0, 1, 2] := by decide +kernel
/-- a linear score is feature-additive (2 features × 1 channel) -/
example : FeatAdditive 2 1 (fun z => 5 + 2 * z.getD 0 0 + 3 * z.getD 1 0) 5
    (fun i r => if i = 0 then 2 * r.getD 0 0 else 3 * r.getD 0 0) := by
  intro rows hl hu
  obtain ⟨r0, r1, rfl⟩ := List.length_eq_two.mp hl
  obtain ⟨a, rfl⟩ := List.length_eq_one_iff.mp (hu r0 List.mem_cons_self)
  obtain ⟨b, rfl⟩ := List.length_eq_one_iff.mp (hu r1 (List.mem_cons_of_mem _ List.mem_cons_self))
  show (5 : Rat) + 2 * a + 3 * b = 5 + (2 * a + (3 * b + 0))
  ring
example : aucImpl [4, 2, 1] = some (9 / 4) ∧ trapzSpec [4, 2, 1] = 9 / 4 := by decide +kernel
example : flipSpec [[1, 1], [2, 2], [3, 3]] [[0, 0], [0, 0], [0, 0]] ([2, 0, 1].take 2)
    = [[0, 0], [2, 2], [0, 0]] := by decide +kernel

end Xp.Causal
