/-
  C09 — RISE averages the scores of exactly the masked inputs it evaluated.

  `Rise.explain` / `Rise.explainOne` is the executable model of `Rise.explain` of rise.py (binary
  grids in chunks, bilinear upsample to the GENERATED size, one crop offset per chunk, masked
  inputs, accumulated numerator / denominator); `Rise.specPairs` / `Rise.specMasks` is the
  reference definition of the property.
-/
import XpModel.Rise
import XpProofs.Lemmas.Rise
import XpProofs.Lemmas.Batching

namespace Xp.Rise

/-- **Refinement (pairs)** — accumulating `Σ score·mask` and `Σ mask` over chunks of ANY size
    `b ≥ 1` (also `b ∤ nb_samples`) and dividing at the end is the reference definition. -/
theorem rise_pairs_impl_eq_spec (nfeat : Nat) (eps : Rat) (b : Nat) (hb : 0 < b)
    (pairs : List (List Rat × Rat)) :
    explainPairs nfeat eps b pairs = specPairs nfeat eps pairs := by
  unfold explainPairs
  rw [finish_foldl_chunks, flatten_batches b hb]

/-- **C09 main theorem, one input** — the model of `Rise.explain` (grids chunked by `b`, each chunk
    upsampled and cropped at its own offset, masked inputs scored by `f`) equals
    `Σ_k f(masked_k)·m_k / (Σ_k m_k + ε)` over exactly the masks it applied, where
    `masked_k = m_k·x + (1−m_k)·v`. No hypothesis on `b`, the offsets or the grids. -/
theorem rise_one_impl_eq_spec (k : Kind) (f : List Rat → Rat) (v eps : Rat) (b : Nat)
    (grids : List (List Rat)) (offs : List (Nat × Nat)) (x : List Rat) :
    explainOne k f v eps b grids offs x
      = specMasks k.nfeat k.chan f v eps x (appliedAll k b grids offs) := by
  unfold explainOne specMasks appliedAll
  rw [← List.foldl_map (f := chunkPairs k f v x) (g := accStep k.nfeat), finish_foldl_chunks]
  have hchunk : chunkPairs k f v x = fun co =>
      (co.1.map fun g => applied k g co.2).map fun m => (m, f (maskedInput k.chan x m v)) :=
    funext fun co => by rw [List.map_map]; rfl
  rw [hchunk, List.map_flatten, List.map_map]
  rfl

/-- **C09 main theorem** — all inputs, every batch size (`none` = `nb_samples`). -/
theorem rise_impl_eq_spec (k : Kind) (f : List Rat → List Rat → Rat) (v eps : Rat) (bs : Option Nat)
    (grids : List (List Rat)) (xs ys : List (List Rat)) (offss : List (List (Nat × Nat))) :
    explain k f v eps bs grids xs ys offss
      = List.zipWith (fun xy offs => specMasks k.nfeat k.chan (fun z => f z xy.2) v eps xy.1
          (appliedAll k (effBatch bs grids.length) grids offs)) (xs.zip ys) offss := by
  unfold explain
  simp only [rise_one_impl_eq_spec]

/-- given the same applied masks and scores, the map does not depend on the batch size -/
theorem rise_bs_indep (nfeat : Nat) (eps : Rat) (b b' : Nat) (hb : 0 < b) (hb' : 0 < b')
    (pairs : List (List Rat × Rat)) :
    explainPairs nfeat eps b pairs = explainPairs nfeat eps b' pairs := by
  rw [rise_pairs_impl_eq_spec _ _ _ hb, rise_pairs_impl_eq_spec _ _ _ hb']

/-- **Positive denominator** — non-negative masks and `ε > 0` make `Σ_k m_k p + ε > 0`. -/
theorem rise_den_pos (eps : Rat) (heps : 0 < eps) (pairs : List (List Rat × Rat)) (p : Nat)
    (hm : ∀ ms ∈ pairs, 0 ≤ ms.1.getD p 0) :
    0 < sumQ (pairs.map fun ms => ms.1.getD p 0) + eps :=
  add_pos_of_nonneg_of_pos (sumQ_map_nonneg pairs _ hm) heps

/-- … hence every cell of the map is a finite number: `num / (den + ε)`. -/
theorem rise_finite (nfeat : Nat) (eps : Rat) (heps : 0 < eps) (pairs : List (List Rat × Rat)) (p : Nat)
    (hp : p < nfeat) (hm : ∀ ms ∈ pairs, 0 ≤ ms.1.getD p 0) :
    (specPairs nfeat eps pairs)[p]? = some (some (mapVal eps pairs p)) := by
  have hd := rise_den_pos eps heps pairs p hm
  unfold specPairs
  rw [List.getElem?_map, List.getElem?_range hp]
  simp only [Option.map_some, divOpt, mapVal]
  rw [if_neg (ne_of_gt hd)]

/-- the shrink factor `den/(den+ε)` lies in `[0, 1)` -/
theorem rise_ratio_range (eps : Rat) (heps : 0 < eps) (pairs : List (List Rat × Rat)) (p : Nat)
    (hm : ∀ ms ∈ pairs, 0 ≤ ms.1.getD p 0) :
    0 ≤ ratio eps pairs p ∧ ratio eps pairs p < 1 := by
  have hd := rise_den_pos eps heps pairs p hm
  unfold ratio
  exact ⟨div_nonneg (sumQ_map_nonneg pairs _ hm) hd.le, (div_lt_one₀ hd).mpr (lt_add_of_pos_right _ heps)⟩

/-- **Bounds** — with masks `≥ 0` and every evaluated score in `[smin, smax]`, each cell of the map
    lies in `[smin · r, smax · r]`, `r = den / (den + ε)`. -/
theorem rise_bounds (eps : Rat) (heps : 0 < eps) (pairs : List (List Rat × Rat)) (p : Nat)
    (smin smax : Rat) (hm : ∀ ms ∈ pairs, 0 ≤ ms.1.getD p 0)
    (hs : ∀ ms ∈ pairs, smin ≤ ms.2 ∧ ms.2 ≤ smax) :
    smin * ratio eps pairs p ≤ mapVal eps pairs p ∧ mapVal eps pairs p ≤ smax * ratio eps pairs p := by
  have hd := rise_den_pos eps heps pairs p hm
  unfold ratio mapVal
  -- all four terms over the same positive denominator: compare the numerators term by term
  rw [← mul_div_assoc, ← mul_div_assoc, div_le_div_iff_of_pos_right hd, div_le_div_iff_of_pos_right hd,
    ← sumQ_map_mul_left, ← sumQ_map_mul_left]
  exact ⟨sumQ_map_le _ _ _ fun ms hms => mul_le_mul_of_nonneg_right (hs ms hms).1 (hm ms hms),
    sumQ_map_le _ _ _ fun ms hms => mul_le_mul_of_nonneg_right (hs ms hms).2 (hm ms hms)⟩

/-- **Constant score** — if every masked input scores `c`, the map is `c · den/(den+ε)` everywhere. -/
theorem rise_constant (eps : Rat) (pairs : List (List Rat × Rat)) (p : Nat) (c : Rat)
    (hc : ∀ ms ∈ pairs, ms.2 = c) :
    mapVal eps pairs p = c * ratio eps pairs p := by
  unfold mapVal ratio
  rw [← mul_div_assoc, ← sumQ_map_mul_left]
  congr 2
  apply List.map_congr_left; intro ms hms; rw [hc ms hms]

/-- **Mask recovery** — where `x ≠ v` the mask value is determined by the masked value; this is the
    observation method of the correspondence harness. -/
theorem rise_mask_recover (x v m : Rat) (h : x ≠ v) : recover x v (m * x + (1 - m) * v) = m := by
  unfold recover
  rw [show m * x + (1 - m) * v - v = m * (x - v) by ring]
  exact mul_div_cancel_right₀ m (sub_ne_zero.mpr h)

theorem rise_mask_recover_list (chan : Nat) (x m : List Rat) (v : Rat) (j : Nat) (hj : j < x.length)
    (h : x.getD j 0 ≠ v) :
    recover (x.getD j 0) v ((maskedInput chan x m v).getD j 0) = m.getD (j / chan) 0 := by
  unfold maskedInput
  rw [getD_range_map _ _ _ hj]
  exact rise_mask_recover _ _ _ h

/-- **Convexity** — every upsampled value is a convex combination of (at most) four grid cells:
    rows `tapLo/tapHi H' h i`, columns `tapLo/tapHi W' w j`, weights `≥ 0` summing to `1`. -/
theorem rise_upsample_convex (H' W' h w : Nat) (g : Nat → Nat → Rat) (i j : Nat) :
    ∃ w00 w01 w10 w11 : Rat, 0 ≤ w00 ∧ 0 ≤ w01 ∧ 0 ≤ w10 ∧ 0 ≤ w11 ∧ w00 + w01 + w10 + w11 = 1 ∧
      up2 H' W' h w g i j
        = w00 * g (tapLo H' h i) (tapLo W' w j) + w01 * g (tapLo H' h i) (tapHi W' w j)
        + w10 * g (tapHi H' h i) (tapLo W' w j) + w11 * g (tapHi H' h i) (tapHi W' w j) := by
  obtain ⟨hy0, hy1⟩ := frac_mem H' h i
  obtain ⟨hx0, hx1⟩ := frac_mem W' w j
  have hy1' := sub_nonneg.mpr hy1
  have hx1' := sub_nonneg.mpr hx1
  exact ⟨(1 - frac H' h i) * (1 - frac W' w j), (1 - frac H' h i) * frac W' w j,
    frac H' h i * (1 - frac W' w j), frac H' h i * frac W' w j,
    mul_nonneg hy1' hx1', mul_nonneg hy1' hx0, mul_nonneg hy0 hx1', mul_nonneg hy0 hx0, by ring, lerp_lerp _ _ _ _ _ _⟩

/-- … hence it stays inside any interval containing the grid values (`[0,1]` for binary grids). -/
theorem rise_upsample_range (H' W' h w : Nat) (g : Nat → Nat → Rat) (lo hi : Rat)
    (hg : ∀ r c, lo ≤ g r c ∧ g r c ≤ hi) (i j : Nat) :
    lo ≤ up2 H' W' h w g i j ∧ up2 H' W' h w g i j ≤ hi :=
  lerp_mem (frac_mem H' h i) (lerp_mem (frac_mem W' w j) (hg _ _) (hg _ _))
    (lerp_mem (frac_mem W' w j) (hg _ _) (hg _ _))

/-- **Mask range and shape** — for every data kind, binary (or `[0,1]`-valued) grid and crop offset,
    the applied mask has exactly one value per spatial cell of the input, each in `[0,1]`. -/
theorem rise_mask_range (k : Kind) (grid : List Rat) (off : Nat × Nat)
    (hg : ∀ c ∈ grid, 0 ≤ c ∧ c ≤ 1) :
    (applied k grid off).length = k.nfeat ∧ ∀ m ∈ applied k grid off, 0 ≤ m ∧ m ≤ 1 := by
  have hunit : ∀ n, 0 ≤ grid.getD n 0 ∧ grid.getD n 0 ≤ 1 := getD_forall ⟨le_rfl, zero_le_one⟩ hg
  cases k with
  | tab W =>
    simp only [applied, Kind.nfeat, List.length_map, List.length_range, true_and, List.forall_mem_map]
    exact fun p _ => hunit p
  | _ =>
    simp only [applied, Kind.nfeat, List.length_map, List.length_range, true_and, List.forall_mem_map]
    exact fun p _ => rise_upsample_range _ _ _ _ _ 0 1 (fun r c => hunit _) _ _

/-- **Upsample size** (about the GENERATED expressions) — `int(H·(1 + 1/h)) = H + ⌊H/h⌋ ≥ H`,
    rows with the grid's rows, columns with the grid's columns. -/
theorem rise_upsample_size (H W h w : Nat) (hh : 0 < h) (hw : 0 < w) :
    (Gen.riseUpImgH H W h w).toNat = H + H / h ∧ (Gen.riseUpImgW H W h w).toNat = W + W / w ∧
    (Gen.riseUpTsT H W h w).toNat = H + H / h ∧ (Gen.riseUpTsW H W h w).toNat = W := by
  have key : ∀ a b : Nat, 0 < b → (Int.fdiv ((a : Int) * ((b : Int) + 1)) (b : Int)).toNat = a + a / b := by
    intro a b hb
    rw [show (a : Int) * ((b : Int) + 1) = ((b * a + a : Nat) : Int) by push_cast; ring, ← Int.ofNat_fdiv,
      Int.toNat_natCast, Nat.mul_add_div hb]
  exact ⟨key H h hh, key W w hw, key H h hh, rfl⟩

theorem rise_crop_possible (k : Kind) (hg : 0 < k.gridShape.1 ∧ 0 < k.gridShape.2) :
    k.extent.1 ≤ k.upSize.1 ∧ k.extent.2 ≤ k.upSize.2 := by
  cases k with
  | tab W => exact ⟨le_rfl, le_rfl⟩
  | ts T W t =>
    obtain ⟨_, _, h3, h4⟩ := rise_upsample_size T W t W hg.1 hg.2
    exact ⟨(Nat.le_add_right _ _).trans_eq h3.symm, h4.ge⟩
  | img H W C h w =>
    obtain ⟨h1, h2, _, _⟩ := rise_upsample_size H W h w hg.1 hg.2
    exact ⟨(Nat.le_add_right _ _).trans_eq h1.symm, (Nat.le_add_right _ _).trans_eq h2.symm⟩

/-- **Crop window** — the applied mask at spatial cell `(i, j)` is the upsampled mask at
    `(i + dy, j + dx)` for every admissible offset: a pure translation, no flip / transposition. -/
theorem rise_crop_is_window (k : Kind) (grid : List Rat) (dy dx i j : Nat)
    (hi : i < k.extent.1) (hj : j < k.extent.2)
    (hle : k.extent.1 ≤ k.upSize.1 ∧ k.extent.2 ≤ k.upSize.2)
    (hdy : dy ≤ k.offLimit.1) (hdx : dx ≤ k.offLimit.2) :
    (applied k grid (dy, dx)).getD (i * k.extent.2 + j) 0
      = (upsampled k grid).getD ((i + dy) * k.upSize.2 + (j + dx)) 0 := by
  have hy : i + dy < k.upSize.1 := (Nat.add_lt_add_of_lt_of_le hi hdy).trans_eq (Nat.add_sub_cancel' hle.1)
  have hx : j + dx < k.upSize.2 := (Nat.add_lt_add_of_lt_of_le hj hdx).trans_eq (Nat.add_sub_cancel' hle.2)
  cases k with
  | tab W =>
    obtain rfl : dy = 0 := Nat.le_zero.mp hdy
    obtain rfl : dx = 0 := Nat.le_zero.mp (hdx.trans_eq (Nat.sub_self W))
    rfl
  | _ =>
    -- both sides read the same entry of the row-major table of `up2`
    exact (getD_rm _ _ (fun r c => up2 _ _ _ _ _ (r + dy) (c + dx)) hi hj).trans
      (getD_rm _ _ (fun r c => up2 _ _ _ _ _ r c) hy hx).symm

/-- **Number of masks** — with one crop offset per chunk, exactly `nb_samples` masks are applied
    (one per binary grid), in chunks of at most `b`. -/
theorem rise_nb_masks (k : Kind) (b : Nat) (hb : 0 < b) (grids : List (List Rat)) (offs : List (Nat × Nat))
    (ho : offs.length = (batches b grids).length) :
    (appliedAll k b grids offs).length = grids.length ∧ ∀ c ∈ batches b grids, c.length ≤ b := by
  refine ⟨?_, fun c hc => (batch_len_le b grids c hc).1⟩
  unfold appliedAll
  rw [List.length_flatten, List.map_map]
  have : (List.length ∘ fun co : List (List Rat) × (Nat × Nat) => co.1.map fun g => applied k g co.2)
      = List.length ∘ Prod.fst := funext fun co => List.length_map _
  rw [this, ← List.map_map, List.map_fst_zip ho.ge, ← List.length_flatten, flatten_batches b hb]

theorem rise_upsample_const (H' W' h w : Nat) (c : Rat) (i j : Nat) :
    up2 H' W' h w (fun _ _ => c) i j = c := by
  unfold up2 lerp; ring

/-- **mean preservation** — take ANY finite distribution over binary grids (weights `ws`, grids
    `gs`) under which every grid cell is kept with probability `p` (what `uniform < p` gives for
    each cell). Then every pixel of the upsampled mask — hence of every crop window, hence of every
    applied mask — has expectation exactly `p`. This is the deterministic content of "masks have on
    average the requested preservation probability"; that TensorFlow's RNG realises such a
    distribution is not proved. -/
theorem rise_mean_preservation (H' W' h w : Nat) (ws : List Rat) (gs : List (Nat → Nat → Rat)) (p : Rat)
    (hcell : ∀ r c, sumQ (List.zipWith (fun wt g => wt * g r c) ws gs) = p) (i j : Nat) :
    sumQ (List.zipWith (fun wt g => wt * up2 H' W' h w g i j) ws gs) = p := by
  rw [up2_wsum, funext fun r => funext (hcell r)]
  exact rise_upsample_const H' W' h w p i j

-- non-vacuity
example : (Kind.img 6 10 3 2 3).upSize = (9, 13) := by decide +kernel
-- two equiprobable grids, each cell kept with probability 1/2: the premise of rise_mean_preservation holds
example : ∀ r c : Nat, sumQ (List.zipWith (fun (wt : Rat) (g : Nat → Nat → Rat) => wt * g r c) [1/2, 1/2]
    [fun r c => if (r + c) % 2 = 0 then 1 else 0, fun r c => if (r + c) % 2 = 0 then 0 else 1]) = 1/2 := by
  intro r c
  by_cases h : (r + c) % 2 = 0
  · simp only [List.zipWith_cons_cons, List.zipWith_nil_right, sumQ_cons, sumQ_nil, h, if_true]
    norm_num
  · simp only [List.zipWith_cons_cons, List.zipWith_nil_right, sumQ_cons, sumQ_nil, h, if_false]
    norm_num
example : (Kind.ts 7 4 3).upSize = (9, 4) := by decide +kernel
example : up2 4 4 2 2 (fun r c => if r = c then 1 else 0) 1 2 = 3 / 8 := by decide +kernel
example : specPairs 2 (1/10) [([1, 0], 3), ([1/2, 1], -1)] = [some (25/16), some (-10/11)] := by decide +kernel
example : explainPairs 2 (1/10) 1 [([1, 0], 3), ([1/2, 1], -1)] = [some (25/16), some (-10/11)] := by
  decide +kernel

end Xp.Rise
