/-
  C03 — batching is transparent: batch_size never changes a deterministic result.

  General theorems about the batching structures of the code (operator batching, chunked
  accumulation, the per-sample consequence: permuting / subsetting / duplicating the inputs
  permutes / subsets / duplicates the explanations), plus the method-specific `*_bs_indep`
  theorems proved with each method's model (Occlusion here; the other methods' theorems live in
  their own property files and are re-exported at the end of this file as they are built).
-/
import XpModel.Basic
import XpProofs.Lemmas.Batching
import XpProofs.Lemmas.Vec
import XpProofs.Lemmas.Occlusion

namespace Xp.C03
variable {α β : Type}

/-- an operator that scores each sample on its own (inference mode: no cross-sample coupling) -/
def PerSample (op : List α → List β) (f : α → β) : Prop := ∀ xs, op xs = xs.map f

/-- **operator batching** — `batch_predictions` / `operator_batching`: for every batch size
    (`None` or any `b ≥ 1`, dividing N or not, larger than N or not) the concatenated per-batch
    results are the per-sample results -/
theorem batched_any_bs (op : List α → List β) (f : α → β) (h : PerSample op f) (bs : Option Nat)
    (hb : ∀ b, bs = some b → 0 < b) (xs : List α) : batched op bs xs = xs.map f :=
  batched_eq_map op f h bs hb xs

/-- two batch sizes give the same result -/
theorem batched_bs_indep (op : List α → List β) (f : α → β) (h : PerSample op f) (b b' : Nat)
    (hb : 0 < b) (hb' : 0 < b') (xs : List α) : batched op (some b) xs = batched op (some b') xs := by
  rw [batched_any_bs op f h (some b) (bsPos_some hb), batched_any_bs op f h (some b') (bsPos_some hb')]

/-- **only bounds memory** — no chunk handed to the model exceeds the batch size, none is empty,
    and together they are exactly the inputs in order -/
theorem calls_le_bs (b : Nat) (hb : 0 < b) (xs : List α) :
    (∀ c ∈ batches b xs, c.length ≤ b ∧ 0 < c.length) ∧ (batches b xs).flatten = xs :=
  ⟨batch_len_le b xs, flatten_batches b hb xs⟩

/-- **permuting the inputs permutes the explanations** (same permutation) -/
theorem per_sample_perm (op : List α → List β) (f : α → β) (h : PerSample op f) (bs : Option Nat)
    (hb : ∀ b, bs = some b → 0 < b) (xs ys : List α) (hp : xs.Perm ys) :
    (batched op bs xs).Perm (batched op bs ys) := by
  rw [batched_any_bs op f h bs hb, batched_any_bs op f h bs hb]; exact hp.map f

/-- **subsetting the inputs subsets the explanations** -/
theorem per_sample_sublist (op : List α → List β) (f : α → β) (h : PerSample op f) (bs : Option Nat)
    (hb : ∀ b, bs = some b → 0 < b) (xs ys : List α) (hs : xs.Sublist ys) :
    (batched op bs xs).Sublist (batched op bs ys) := by
  rw [batched_any_bs op f h bs hb, batched_any_bs op f h bs hb]; exact hs.map f

/-- **duplicating an input duplicates its explanation** -/
theorem per_sample_dup (op : List α → List β) (f : α → β) (h : PerSample op f) (bs : Option Nat)
    (hb : ∀ b, bs = some b → 0 < b) (x : α) (n : Nat) :
    batched op bs (List.replicate n x) = List.replicate n (f x) := by
  rw [batched_any_bs op f h bs hb]; simp

/-- the explanation of a sample does not depend on its neighbours in the call -/
theorem per_sample_position (op : List α → List β) (f : α → β) (h : PerSample op f) (bs : Option Nat)
    (hb : ∀ b, bs = some b → 0 < b) (pre post : List α) (x : α) :
    (batched op bs (pre ++ x :: post))[pre.length]? = some (f x) := by
  rw [batched_any_bs op f h bs hb, List.getElem?_map, List.getElem?_append_right (le_refl _), Nat.sub_self]
  rfl

/-- **chunked accumulation** (Occlusion sensitivities, RISE numerator / denominator, online
    statistics): summing per-chunk column sums over ANY chunking equals the column sums over the
    whole list -/
theorem accumulate_any_chunking {μ : Type} (n b : Nat) (hb : 0 < b) (h : Nat → μ → Rat) (ms : List μ) :
    (batches b ms).foldl (fun a ch => vadd a ((List.range n).map fun k => sumQ (ch.map (h k)))) (vzero n)
      = (List.range n).map fun k => sumQ (ms.map (h k)) := by
  rw [foldl_vadd_vzero, flatten_batches b hb]

/-- the `while total < nb_samples` loop of GradientStatistic / MuFidelity draws exactly
    `nb_samples` perturbations in chunks of at most `perturbation_batch_size` -/
theorem chunk_loop_exact (pbs nb : Nat) (h : 0 < pbs) :
    (chunkSizes pbs nb).sum = nb ∧ ∀ c ∈ chunkSizes pbs nb, 0 < c ∧ c ≤ pbs :=
  ⟨chunkSizes_sum pbs nb h, chunkSizes_le pbs nb⟩

/-- Occlusion (model of C06): every batch size gives the `None` result — for ANY mask geometry
    (this does not depend on the anchor arithmetic) -/
theorem occlusion_bs_indep (g : Occl.Geom) (f : List Rat → List Rat → Rat) (v : Rat)
    (b : Nat) (hb : 0 < b) (xs ys : List (List Rat)) :
    Occl.explain g f v (some b) xs ys = Occl.explain g f v none xs ys :=
  Occl.explain_bs_indep g f v b hb xs ys

-- non-vacuity
example : PerSample (fun xs : List Nat => xs.map (· + 1)) (· + 1) := fun _ => rfl
example : batched (fun xs : List Nat => xs.map (· * 2)) (some 2) [1, 2, 3, 4, 5] = [2, 4, 6, 8, 10] := by
  decide +kernel

end Xp.C03
