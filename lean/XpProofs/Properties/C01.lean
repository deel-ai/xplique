/-
  C01 — gradient attributions equal the analytic gradient statistics.

  `GS.saliencyImpl`, `GS.gradInputImpl`, `GS.gsImpl` are the executable models of
  Saliency / GradientInput / GradientStatistic.explain (SmoothGrad, SquareGrad, VarGrad); the
  scalar batch arithmetic inside `gsImpl` is GENERATED from the source.  `g` (the gradient of the
  explained score, as delivered by TensorFlow autodiff) and the noisy copies `it.pt k` of every
  input are parameters.  Hypothesis `PerSample op g`: the gradient of a sample does not depend on
  the rest of its batch.
-/
import XpModel.GradStat
import XpProofs.Lemmas.GradStat
import XpProofs.Lemmas.MinMax

namespace Xp.GS

theorem gs_pbs_spec (b nb : Nat) : (Gen.gsPbs (b : Int) (nb : Int)).toNat = min b nb := by
  rw [Gen.gsPbs, ← Nat.cast_min, Int.toNat_natCast]

theorem gs_ibs_spec (b p : Nat) : (Gen.gsIbs (b : Int) (p : Int)).toNat = max 1 (b / p) := by
  rw [Gen.gsIbs, ← Int.ofNat_fdiv, ← Nat.cast_one, ← Nat.cast_max, Int.toNat_natCast]

theorem gs_default_bs_spec (n nb : Nat) : (Gen.gsDefaultBs (n : Int) (nb : Int)).toNat = n * nb := by
  rw [Gen.gsDefaultBs, ← Nat.cast_mul, Int.toNat_natCast]

private theorem effBs_eq (bs : Option Nat) (n nb : Nat) : effBs bs n nb = (effBatch bs (n * nb) : Nat) := by
  cases bs with
  | none => exact (Nat.cast_mul n nb).symm
  | some b => rfl

private theorem pbsOf_eq (bs : Option Nat) (n nb : Nat) : pbsOf bs n nb = min (effBatch bs (n * nb)) nb := by
  rw [pbsOf, effBs_eq, gs_pbs_spec]

private theorem ibsOf_eq (bs : Option Nat) (n nb : Nat) :
    ibsOf bs n nb = max 1 (effBatch bs (n * nb) / pbsOf bs n nb) := by
  rw [ibsOf, effBs_eq, gs_ibs_spec]

private theorem sizes_pos (bs : Option Nat) (hbs : ∀ b, bs = some b → 0 < b) (n nb : Nat) (hn : 0 < n) (hnb : 0 < nb) :
    0 < (effBs bs n nb).toNat ∧ 0 < pbsOf bs n nb ∧ 0 < ibsOf bs n nb := by
  have he := effBatch_pos bs hbs (n * nb) (Nat.mul_pos hn hnb)
  rw [effBs_eq, Int.toNat_natCast, pbsOf_eq, ibsOf_eq]
  exact ⟨he, Nat.lt_min.mpr ⟨he, hnb⟩, Nat.lt_of_lt_of_le Nat.one_pos (Nat.le_max_left ..)⟩

theorem gs_chunks_eq_chunkSizes (pbs nb : Nat) (hp : 0 < pbs) :
    (chunks pbs nb).map (·.2) = chunkSizes pbs nb := by
  rw [chunks_eq pbs nb hp, blocksFrom_sizes]

/-- **exactly `nb_samples` noisy copies per input**: the chunk sizes add up to `nb` … -/
theorem gs_uses_exactly_nb (pbs nb : Nat) (hp : 0 < pbs) : ((chunks pbs nb).map (·.2)).sum = nb := by
  rw [gs_chunks_eq_chunkSizes pbs nb hp, chunkSizes_sum pbs nb hp]

/-- … and the draws used are `0, 1, …, nb−1`, each exactly once, in order -/
theorem gs_draw_indices (pbs nb : Nat) (hp : 0 < pbs) :
    (chunks pbs nb).flatMap (fun tc => (List.range tc.2).map (tc.1 + ·)) = List.range nb := by
  rw [chunks_eq pbs nb hp, blocksFrom_flat, chunkSizes_sum pbs nb hp]
  simp only [Nat.zero_add, List.map_id']

/-- every chunk is non-empty and at most `perturbation_batch_size` long -/
theorem gs_chunk_bounds (pbs nb : Nat) (hp : 0 < pbs) : ∀ tc ∈ chunks pbs nb, 0 < tc.2 ∧ tc.2 ≤ pbs :=
  fun tc h => chunkSizes_le pbs nb tc.2 (gs_chunks_eq_chunkSizes pbs nb hp ▸ List.mem_map_of_mem h)

/-- "batch_size only bounds memory": a `_perturb_samples` call never creates more than
    `batch_size` points (`inputs_batch_size · perturbation_batch_size ≤ batch_size`) -/
theorem gs_points_per_call_le_bs (b n nb : Nat) (hb : 0 < b) (hnb : 0 < nb) :
    ibsOf (some b) n nb * pbsOf (some b) n nb ≤ b := by
  rw [ibsOf_eq, pbsOf_eq]
  show max 1 (b / min b nb) * min b nb ≤ b
  rw [Nat.max_eq_right ((Nat.one_le_div_iff (Nat.lt_min.mpr ⟨hb, hnb⟩)).mpr (Nat.min_le_left b nb))]
  exact Nat.div_mul_le_self b (min b nb)

/-- alignment of inputs, labels and gradients: regrouping (`reshape (n, c, …)`) a sample-major
    repetition (`tf.repeat(axis=0)` / `repeat_labels`) mapped through any per-sample function
    gives, for every sample, its own `c` values -/
theorem regroup_repeatEach {α β : Type} (c : Nat) (hc : 0 < c) (f : α → β) (xs : List α) :
    regroup c ((repeatEach c xs).map f) = xs.map fun x => List.replicate c (f x) := by
  rw [regroup, repeatEach, List.map_flatMap,
    batches_flatMap_uniform c hc _ xs (fun a _ => by rw [List.length_map, List.length_replicate])]
  simp only [List.map_replicate]

/-- **Saliency = |∂s/∂x|** for every batch size -/
theorem saliency_spec (op : GradOp) (g : Vec → Vec → Vec) (hop : PerSample op g) (bs : Option Nat)
    (hbs : ∀ b, bs = some b → 0 < b) (xs ys : List Vec) :
    saliencyImpl op bs xs ys = saliencySpec g xs ys := by
  rw [saliencyImpl, saliencySpec, hop.batched_eq bs hbs, List.map_map, List.zip_eq_zipWith, List.map_zipWith]
  rfl

/-- **GradientInput = x · ∂s/∂x** for every batch size -/
theorem gradinput_spec (op : GradOp) (g : Vec → Vec → Vec) (hop : PerSample op g) (bs : Option Nat)
    (hbs : ∀ b, bs = some b → 0 < b) (xs ys : List Vec) :
    gradInputImpl op bs xs ys = gradInputSpec g xs ys := by
  -- the code multiplies gradient · input, the reference input · gradient
  have hmul : ∀ a b : Vec, vmul a b = List.zipWith (fun ai bi => bi * ai) a b :=
    fun a b => congrArg (fun f => List.zipWith f a b) (funext₂ mul_comm)
  rw [gradInputImpl, gradInputSpec, hop.batched_eq bs hbs]
  induction xs generalizing ys with
  | nil => rfl
  | cons x xs ih =>
    cases ys with
    | nil => rfl
    | cons y ys =>
      rw [List.zip_cons_cons, List.map_cons, List.zipWith_cons_cons, List.zipWith_cons_cons, ih, hmul]

theorem saliency_bs_indep (op : GradOp) (g : Vec → Vec → Vec) (hop : PerSample op g) (b : Nat) (hb : 0 < b)
    (xs ys : List Vec) : saliencyImpl op (some b) xs ys = saliencyImpl op none xs ys :=
  bs_indep_of_spec (saliencyImpl op · xs ys) _ (fun bs hbs => saliency_spec op g hop bs hbs xs ys) hb

theorem gradinput_bs_indep (op : GradOp) (g : Vec → Vec → Vec) (hop : PerSample op g) (b : Nat) (hb : 0 < b)
    (xs ys : List Vec) : gradInputImpl op (some b) xs ys = gradInputImpl op none xs ys :=
  bs_indep_of_spec (gradInputImpl op · xs ys) _ (fun bs hbs => gradinput_spec op g hop bs hbs xs ys) hb

private theorem batchRun_eq (op : GradOp) (g : Vec → Vec → Vec) (hop : PerSample op g) (k : Kind)
    (D bsz pbs nb : Nat) (hb : 0 < bsz) (hp : 0 < pbs) (hnb : 1 ≤ nb) (hvar : k = .var → 2 ≤ nb)
    (batch : List Item) :
    batchRun op k D bsz pbs nb batch = some (batch.map (specOne g k D nb)) := by
  rw [batchRun, fold_state op g hop D bsz pbs nb hb hp batch, stAt, St.final, if_neg (Nat.ne_of_gt hnb),
    if_neg (fun h => Nat.not_lt.mpr (hvar h.1) h.2), zipWith_map_map_self]
  exact congrArg some (List.map_congr_left fun it _ => finalRow_acc g k D nb hvar it)

/-- **C01 main theorem (SmoothGrad family)** — for every batch size (`none` or positive), every
    number of inputs, `nb ≥ 1` (`nb ≥ 2` for VarGrad), dimension and noise realisation, the model of
    `GradientStatistic.explain` returns, input by input and coordinate by coordinate, the statistic
    of the gradients at exactly the `nb` noisy copies of that input (`gsSpec = items.map specOne`:
    this is also the per-sample statement used by C03). -/
theorem gs_impl_eq_spec (op : GradOp) (g : Vec → Vec → Vec) (hop : PerSample op g) (k : Kind) (D : Nat)
    (bs : Option Nat) (hbs : ∀ b, bs = some b → 0 < b) (nb : Nat) (hnb : 1 ≤ nb)
    (hvar : k = .var → 2 ≤ nb) (items : List Item) :
    gsImpl op k D bs nb items = some (gsSpec g k D nb items) := by
  rw [gsImpl, gsSpec]
  by_cases hi : items = []
  · rw [hi, batches_nil]; rfl
  · obtain ⟨hb, hp, hib⟩ := sizes_pos bs hbs items.length nb (List.length_pos_iff.mpr hi) hnb
    rw [List.map_congr_left fun b _ => batchRun_eq op g hop k D _ _ nb hb hp hnb hvar b, allSome_map_some,
      Option.map_some, ← List.flatMap_def, flatMap_batches_map _ hib]

/-- per-sample form: the explanation of a list of inputs is the list of the explanations of
    each input on its own (whatever the batch size) -/
theorem gs_per_sample (op : GradOp) (g : Vec → Vec → Vec) (hop : PerSample op g) (k : Kind) (D : Nat)
    (bs : Option Nat) (hbs : ∀ b, bs = some b → 0 < b) (nb : Nat) (hnb : 1 ≤ nb)
    (hvar : k = .var → 2 ≤ nb) (items : List Item) :
    gsImpl op k D bs nb items = some (items.map (specOne g k D nb)) :=
  gs_impl_eq_spec op g hop k D bs hbs nb hnb hvar items

/-- **batch-size independence** of SmoothGrad / SquareGrad / VarGrad (same noisy copies) -/
theorem gs_bs_indep (op : GradOp) (g : Vec → Vec → Vec) (hop : PerSample op g) (k : Kind) (D : Nat)
    (b : Nat) (hb : 0 < b) (nb : Nat) (hnb : 1 ≤ nb) (hvar : k = .var → 2 ≤ nb) (items : List Item) :
    gsImpl op k D (some b) nb items = gsImpl op k D none nb items :=
  bs_indep_of_spec (gsImpl op k D · nb items) _
    (fun bs hbs => gs_impl_eq_spec op g hop k D bs hbs nb hnb hvar items) hb

/-- SmoothGrad: coordinate `d` of input `it` is the mean over its `nb` noisy copies of `∂s/∂x_d` -/
theorem smoothgrad_eq_mean (op : GradOp) (g : Vec → Vec → Vec) (hop : PerSample op g) (D : Nat)
    (bs : Option Nat) (hbs : ∀ b, bs = some b → 0 < b) (nb : Nat) (hnb : 1 ≤ nb) (items : List Item) :
    gsImpl op .smooth D bs nb items = some (items.map fun it => (List.range D).map fun d =>
      meanQ ((List.range nb).map fun j => (g (it.pt j) it.y).getD d 0)) := by
  rw [gs_impl_eq_spec op g hop .smooth D bs hbs nb hnb nofun items, gsSpec]
  exact congrArg some (List.map_congr_left fun it _ => specOne_flat g .smooth D nb it)

/-- SquareGrad: mean of the squared gradients -/
theorem squaregrad_eq_meansq (op : GradOp) (g : Vec → Vec → Vec) (hop : PerSample op g) (D : Nat)
    (bs : Option Nat) (hbs : ∀ b, bs = some b → 0 < b) (nb : Nat) (hnb : 1 ≤ nb) (items : List Item) :
    gsImpl op .square D bs nb items = some (items.map fun it => (List.range D).map fun d =>
      meanQ (((List.range nb).map fun j => (g (it.pt j) it.y).getD d 0).map fun a => a * a)) := by
  rw [gs_impl_eq_spec op g hop .square D bs hbs nb hnb nofun items, gsSpec]
  exact congrArg some (List.map_congr_left fun it _ => specOne_flat g .square D nb it)

/-- VarGrad: unbiased sample variance `Σ (g_j − ḡ)² / (nb − 1)`, for `nb ≥ 2` -/
theorem vargrad_eq_unbiased (op : GradOp) (g : Vec → Vec → Vec) (hop : PerSample op g) (D : Nat)
    (bs : Option Nat) (hbs : ∀ b, bs = some b → 0 < b) (nb : Nat) (hnb : 2 ≤ nb) (items : List Item) :
    gsImpl op .var D bs nb items = some (items.map fun it => (List.range D).map fun d =>
      let col := (List.range nb).map fun j => (g (it.pt j) it.y).getD d 0
      sumQ (col.map fun a => (a - meanQ col) * (a - meanQ col)) / ((nb : Rat) - 1)) := by
  rw [gs_impl_eq_spec op g hop .var D bs hbs nb (Nat.le_of_succ_le hnb) (fun _ => hnb) items, gsSpec]
  exact congrArg some (List.map_congr_left fun it _ => specOne_flat g .var D nb it)

/-- VarGrad with a single sample is undefined (the code asserts `_elements_counter >= 2`) -/
theorem vargrad_one_sample_undefined (op : GradOp) (g : Vec → Vec → Vec) (hop : PerSample op g) (D : Nat)
    (bs : Option Nat) (hbs : ∀ b, bs = some b → 0 < b) (items : List Item) (hi : items ≠ []) :
    gsImpl op .var D bs 1 items = none := by
  obtain ⟨hb, hp, hib⟩ := sizes_pos bs hbs items.length 1 (List.length_pos_iff.mpr hi) Nat.one_pos
  -- the first input batch already ends with the counter at 1
  rw [gsImpl, batches_cons _ hib items hi, List.map_cons, batchRun, fold_state op g hop D _ _ 1 hb hp]
  rfl

/-! ### channel reducer (`_harmonize_channel_dimension`) -/

/-- `reducer = None` keeps the channels -/
theorem reducer_none_unchanged (lay : Layout) (v : Vec) : harmonize none lay v = v := by
  cases lay <;> rfl

/-- tabular data and time series are never reduced; neither are single-channel images -/
theorem reducer_only_images (r : Option Reducer) (v : Vec) :
    harmonize r .tab v = v ∧ harmonize r .ts v = v ∧ harmonize r (.img 1) v = v := by
  refine ⟨rfl, rfl, ?_⟩
  cases r with
  | none => rfl
  | some r => rw [harmonize, if_neg (fun h : (1 : Nat) ≠ 1 => h rfl)]

/-- **reducer clause** — for an image with `C ≠ 1` channels the explanation of pixel `p` is the
    requested reduction of that pixel's `C` channel values (entries `p·C … p·C + C − 1`) -/
theorem reducer_spec (r : Reducer) (c p : Nat) (hc : 0 < c) (hc1 : c ≠ 1) (v : Vec) (hv : v.length = p * c) :
    harmonize (some r) (.img c) v = reducePixels r c v := by
  -- the flattened image is the concatenation of its pixels' channel blocks, which `batches c` gives back
  have hv' : v = (List.range p).flatMap fun q => (List.range c).map fun k => v.getD (q * c + k) 0 := by
    conv_lhs => rw [← range_map_getD v 0, hv, map_range_mul]
  rw [harmonize, if_pos hc1, reducePixels, hv, Nat.mul_div_cancel p hc]
  conv_lhs => rw [hv', batches_flatMap_uniform c hc _ _ (fun _ _ => by rw [List.length_map, List.length_range])]
  rw [List.map_map]
  rfl

theorem red_characterisation (l : List Rat) (hl : l ≠ []) :
    (red .min l ∈ l ∧ ∀ a ∈ l, red .min l ≤ a) ∧ (red .max l ∈ l ∧ ∀ a ∈ l, a ≤ red .max l)
      ∧ red .sum l = sumQ l ∧ red .mean l = sumQ l / (l.length : Rat) := by
  cases l with
  | nil => exact absurd rfl hl
  | cons a t =>
    -- the fold starts from the head `a`, so "the start value or an element" is "an element"
    obtain ⟨hle, hmin⟩ := foldl_ratMin_spec (a :: t) a
    obtain ⟨hge, hmax⟩ := foldl_ratMax_spec (a :: t) a
    exact ⟨⟨(List.mem_cons.mp hmin).elim (fun h => List.mem_cons.mpr (Or.inl h)) id,
        fun x hx => hle x (List.mem_cons_of_mem _ hx)⟩,
      ⟨(List.mem_cons.mp hmax).elim (fun h => List.mem_cons.mpr (Or.inl h)) id,
        fun x hx => hge x (List.mem_cons_of_mem _ hx)⟩, rfl, rfl⟩

/-! ### non-vacuity -/

/-- the per-sample hypothesis is met by the operator of any per-sample gradient -/
example (g : Vec → Vec → Vec) : PerSample (gradMap g) g := fun _ => rfl

-- score s(x) = y₀ · (x₀² + 3 x₁): gradient (2 x₀ y₀, 3 y₀); three noisy copies, batch size 2 < nb
example : gsImpl (gradMap fun p y => [2 * p.getD 0 0 * y.getD 0 0, 3 * y.getD 0 0]) .var 2 (some 2) 3
    [{ pt := fun k => [(k : Rat), 1], y := [2] }, { pt := fun k => [1 - (k : Rat) / 2, 0], y := [1] }]
    = some [[16, 0], [1, 0]] := by decide +kernel
example : gsImpl (gradMap fun p y => [2 * p.getD 0 0 * y.getD 0 0, 3 * y.getD 0 0]) .smooth 2 none 3
    [{ pt := fun k => [(k : Rat), 1], y := [2] }] = some [[4, 6]] := by decide +kernel
example : chunks 3 8 = [(0, 3), (3, 3), (6, 2)] := by decide +kernel
example : harmonize (some .max) (.img 2) [1, 5, -2, -3] = [5, -2] := by decide +kernel

end Xp.GS
