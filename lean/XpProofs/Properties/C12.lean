/-
  C12 — common API contract: shapes and input containers.

  Model: XpModel/Shapes.lean (shape calculus of the 16 `explain` methods following the code,
  and `tensor_sanitize`).  dtype float32, finiteness and value identity across containers are
  checked on the implementation by the harness (predicates), not theorems.
-/
import XpModel.Shapes
import XpProofs.Lemmas.Batching

namespace Xp.Shp

private theorem bcastRev_self (r : List Nat) : bcastRev r r = some r := by
  induction r with
  | nil => rfl
  | cons x r ih => unfold bcastRev; rw [ih]; exact if_pos rfl

/-- an accumulator with a last axis of 1 takes the last axis of what is added to it: the RISE accumulator
    `zeros((*x.shape[:-1], 1))` plus the weighted masks, for tabular, time-series and image inputs alike -/
private theorem bcast_append_one (xs : List Nat) (w : Nat) : bcast (xs ++ [1]) (xs ++ [w]) = some (xs ++ [w]) := by
  have h : bcastRev (1 :: xs.reverse) (w :: xs.reverse) = some (w :: xs.reverse) := by
    unfold bcastRev
    rw [bcastRev_self]
    by_cases h : 1 = w
    · subst h; exact if_pos rfl
    · exact (if_neg h).trans (if_pos rfl)
  unfold bcast
  rw [List.reverse_append, List.reverse_append]
  show (bcastRev (1 :: xs.reverse) (w :: xs.reverse)).map List.reverse = _
  rw [h, Option.map_some, List.reverse_cons, List.reverse_reverse]

private theorem explainShape_rise (r : Bool) (n : Nat) (k : Kind) : explainShape .rise r n k = some (documented n k) := by
  cases k with
  | tab w => exact congrArg (Option.map (n :: ·)) (bcast_append_one [] w)
  | ts t w => exact congrArg (Option.map (n :: ·)) (bcast_append_one [t] w)
  | img h w c => exact congrArg (Option.map (n :: ·)) (bcast_append_one [h, w] 1)

private theorem explainShape_grad (m : Method) (hm : m.gradientBased = true) (r : Bool) (n : Nat) (k : Kind) :
    explainShape m r n k = some (harmonize r (k.input n).length (k.input n)) := by
  cases m
  case rise | gradCAM | gradCAMPP | sobol | hsic | occlusion | lime | kernelShap => cases hm
  all_goals rfl

private theorem harmonize_reducer (n : Nat) (k : Kind) :
    harmonize true (k.input n).length (k.input n) = documented n k := by
  cases k with
  | img h w c =>
    by_cases hc : c = 1
    · subst hc; rfl
    · exact if_pos ⟨rfl, fun e => hc (Option.some.inj e), rfl⟩
  | _ => rfl

private theorem harmonize_none (n : Nat) (k : Kind) : harmonize false (k.input n).length (k.input n) = k.input n := by
  cases k with
  | img h w c => exact if_neg fun e => Bool.false_ne_true e.2.2
  | _ => rfl

private theorem explainShape_default (m : Method) (k : Kind) (n : Nat) :
    explainShape m true n k = if supported m k then some (documented n k) else none := by
  cases m
  case rise => exact explainShape_rise true n k
  case gradCAM | gradCAMPP | sobol | hsic | occlusion | lime | kernelShap => cases k <;> rfl
  all_goals exact (explainShape_grad _ rfl true n k).trans (congrArg some (harmonize_reducer n k))

/-- for every method, every data kind it supports, every N and every H, W, T, C (no bound), `explain`
    with the default channel reducer returns `(N,W)` for tabular data, `(N,T,W)` for time series and
    `(N,H,W,1)` for images. -/
theorem explain_shape (m : Method) (k : Kind) (n : Nat) (hs : supported m k = true) :
    explainShape m true n k = some (documented n k) :=
  (explainShape_default m k n).trans (if_pos hs)

/-- with `reducer=None` gradient-based methods keep the channel axis -/
theorem explain_shape_no_reducer (m : Method) (n h w c : Nat) (hm : m.gradientBased = true) :
    explainShape m false n (.img h w c) = some [n, h, w, c] :=
  (explainShape_grad m hm false n _).trans (congrArg some (harmonize_none n _))

/-- unsupported combinations are rejected by the model as by the code -/
theorem unsupported_none (m : Method) (k : Kind) (n : Nat) (hs : supported m k = false) :
    explainShape m true n k = none :=
  (explainShape_default m k n).trans (if_neg (hs ▸ Bool.false_ne_true))

/-- arrays / tensors, unbatched datasets and datasets batched with ANY batch size `b ≥ 1` (remainder
    batch included) hand the same samples, in the same order, to the explainer -/
theorem sanitize_values (samples : List Nat) (c : Container)
    (hc : match c with
      | .array => True
      | .dataset none _ => True
      | .dataset (some b) wrapped => 0 < b ∧ wrapped = false) :
    sanitize samples c = samples.map fun s => [s] := by
  cases c with
  | array => rfl
  | dataset b wrapped =>
    cases b with
    | none => rfl
    | some b =>
      obtain ⟨hb, hw⟩ := hc
      subst hw
      simp only [sanitize, flatten_batches b hb]

/-- **witness (known finding D5)**: a batched dataset wrapped by `prefetch` / `map` is not
    un-batched: 5 samples batched by 2 arrive as 3 rows -/
theorem Witness.dataset_wrapper :
    (sanitize [0, 1, 2, 3, 4] (.dataset (some 2) true)).length = 3 ∧
    (sanitize [0, 1, 2, 3, 4] (.dataset (some 2) false)).length = 5 := by decide +kernel

-- non-vacuity
example : explainShape .rise true 3 (.ts 5 1) = some [3, 5, 1] := by decide
example : explainShape .saliency true 2 (.img 4 6 3) = some [2, 4, 6, 1] := by decide
example : supported .gradCAM (.tab 4) = false := by decide

end Xp.Shp
