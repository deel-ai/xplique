/-
  C18 — prototype selection (ProtoGreedy / MMDCritic / ProtoDash) is batching-independent and
  maximises its stated objective.

  `ProtoSel.run (cfgOf K n b meth inv eps) m` is the executable model of
  `ProtoGreedySearch.__init__` (triangular traversal of the kernel matrix, padded tables, greedy loop
  with mask, per-batch `tf.argmax`, strict `>` across batches, method-specific objectives and weight
  updates) on a dataset of `n` cases cut into batches of `b`; `specRun` / `greedySpec` / `objSpec` / `mu`
  are the batch-free reference definitions.  The kernel `K` (values of `kernel_fn`, e.g. through `exp`)
  and `inv` (`tf.linalg.inv`) are parameters; the only hypothesis on `K` is symmetry, none on `inv`.
  All theorems hold for every dataset size, every batch size `b ≥ 1` and every number of prototypes.
-/
import XpModel.ProtoSel
import XpProofs.Lemmas.ProtoArgmax
import XpProofs.Lemmas.ProtoTri
import XpProofs.Lemmas.ProtoGreedy
import XpProofs.Lemmas.ProtoRun
import XpProofs.Lemmas.ProtoSpec
import XpProofs.Lemmas.SqDist

namespace Xp.ProtoSel

/-- for a symmetric kernel and ANY partition of the dataset into batches (any sizes, remainder batch,
    one batch), traversing only the lower block triangle and re-using the stored row sums yields, for
    every case `j`, the sum of the whole kernel column `Σ_i K i j`; the diagonal values and the number
    of samples are right too. -/
theorem colmeans_triangular (K : Kern) (hsym : ∀ i j, K i j = K j i) (bt : List (List Nat)) :
    (triangular K bt).colSums = bt.map (fun colB => colB.map fun j => sumQ (bt.flatten.map fun i => K i j)) ∧
    (triangular K bt).diag = bt.map (fun colB => colB.map fun j => K j j) ∧
    (triangular K bt).nb = bt.flatten.length :=
  triangular_spec K hsym bt

private theorem flatIndex_natCast (bi b p : Nat) :
    Gen.flatIndex (bi : Int) (b : Int) (p : Int) = ((bi * b + p : Nat) : Int) := by
  unfold Gen.flatIndex
  push_cast
  rfl

/-- in the padded `(n_batches, batch_size)` tables `kernel_col_means` / `kernel_diag` of a dataset of
    `n` rows cut into batches of `b`, the cell `(bi, p)` of a real case holds the mean of the full
    kernel column, resp. the kernel diagonal, of dataset row `bi * b + p` — which is the flat index
    computed by the GENERATED `Gen.flatIndex`. -/
theorem diag_spec (K : Kern) (hsym : ∀ i j, K i j = K j i) (n b : Nat) (hb : 0 < b) (bi p : Nat)
    (hbi : bi < (batches b (List.range n)).length)
    (hp : p < ((batches b (List.range n)).getD bi []).length) :
    p < b ∧ bi * b + p < n ∧
    Gen.flatIndex (bi : Int) (b : Int) (p : Int) = ((bi * b + p : Nat) : Int) ∧
    get2 (colMeansTable K b (batches b (List.range n))) bi p = mu K (List.range n) (bi * b + p) ∧
    get2 (diagTable K b (batches b (List.range n))) bi p = K (bi * b + p) (bi * b + p) := by
  obtain ⟨h1, h2, h3⟩ := batches_range_pos n b hb bi p hp
  obtain ⟨t1, t2⟩ := tables_spec K hsym b (batches b (List.range n)) bi p hp
  rw [h1, flatten_batches b hb] at t1
  rw [h1] at t2
  exact ⟨h2, h3, flatIndex_natCast bi b p, t1, t2⟩

/-- padding cells are never candidates: every candidate position of a step is a real case -/
theorem candidates_are_cases (c : Cfg) (st : Sel) : ∀ q ∈ positions c st, validPos c q :=
  positions_valid c st

abbrev reached (K : Kern) (n b : Nat) (meth : Method) (inv : List (List Rat) → List (List Rat)) (eps : Rat)
    (m k : Nat) : Sel :=
  runFrom (cfgOf K n b meth inv eps) (initSel (cfgOf K n b meth inv eps) m) k

/-- at every reachable state of the loop and for every real position `(bi, p)`, the objective computed
    by `_compute_batch_objectives` from the tables, the incrementally built selection kernel and the
    candidate–selection kernel is the reference objective `objSpec` of dataset row `bi * b + p` given
    the cases selected so far. -/
theorem objective_spec (K : Kern) (hsym : ∀ i j, K i j = K j i) (n b : Nat) (hb : 0 < b) (meth : Method)
    (inv : List (List Rat) → List (List Rat)) (eps : Rat) (m k bi p : Nat)
    (hbi : bi < (batches b (List.range n)).length)
    (hp : p < ((batches b (List.range n)).getD bi []).length) :
    (evalCand (cfgOf K n b meth inv eps) (reached K n b meth inv eps m k) bi
        ((batches b (List.range n)).getD bi []) p).obj
      = objSpec meth inv eps K (List.range n) (reached K n b meth inv eps m k).cases (bi * b + p) := by
  have h := congrArg Cand.obj (evalCand_spec _ (cfgOf_ok K hsym n b hb meth inv eps) _
    (runFrom_cfgOf K hsym n b hb meth inv eps m k).2.2 (bi, p) ⟨hbi, hp⟩)
  rw [show (cfgOf K n b meth inv eps).bt.flatten = List.range n from flatten_batches b hb _,
    show phi (cfgOf K n b meth inv eps) (bi, p) = bi * b + p from (batches_range_pos n b hb bi p hp).1] at h
  exact h

/-- the value computed by `MMDCriticSearch._compute_batch_objectives` for the candidate at position
    `(bi, p)` is `2 μ_x − (K_xx + 2 Σ_{s∈S} K_sx) / (|S| + 1)` with `x = bi * b + p`, `S` the cases
    selected so far and `μ` the dense column mean of the FULL kernel. -/
theorem mmd_objective_spec (K : Kern) (hsym : ∀ i j, K i j = K j i) (n b : Nat) (hb : 0 < b)
    (inv : List (List Rat) → List (List Rat)) (eps : Rat) (m k bi p : Nat)
    (hbi : bi < (batches b (List.range n)).length)
    (hp : p < ((batches b (List.range n)).getD bi []).length) :
    let S := (reached K n b .mmd inv eps m k).cases
    let x := bi * b + p
    (evalCand (cfgOf K n b .mmd inv eps) (reached K n b .mmd inv eps m k) bi
        ((batches b (List.range n)).getD bi []) p).obj
      = 2 * (sumQ ((List.range n).map fun i => K i x) / (n : Rat))
        - (K x x + 2 * sumQ (S.map fun s => K s x)) / ((S.length : Rat) + 1) := by
  intro S x
  rw [objective_spec K hsym n b hb .mmd inv eps m k bi p hbi hp]
  simp only [objSpec, mmdSpec, mu, List.length_range, S, x]

/-- the value computed by `ProtoGreedySearch._compute_batch_objectives` (kernel of `S ∪ {x}` assembled
    by `tf.concat`s from the incremental selection kernel) is `wᵀμ − ½ wᵀ K w` on `T = S ∪ {x}` for
    `w = max((K_T + eps I)⁻¹ μ_T, 0)`, everything taken from the FULL kernel matrix. -/
theorem protogreedy_objective_spec (K : Kern) (hsym : ∀ i j, K i j = K j i) (n b : Nat) (hb : 0 < b)
    (inv : List (List Rat) → List (List Rat)) (eps : Rat) (m k bi p : Nat)
    (hbi : bi < (batches b (List.range n)).length)
    (hp : p < ((batches b (List.range n)).getD bi []).length) :
    let T := (reached K n b .greedy inv eps m k).cases ++ [bi * b + p]
    let muT := T.map (mu K (List.range n))
    let w := (matVec (inv (addEps eps (subMat K T))) muT).map relu
    (evalCand (cfgOf K n b .greedy inv eps) (reached K n b .greedy inv eps m k) bi
        ((batches b (List.range n)).getD bi []) p).obj
      = dot w muT - (1/2 : Rat) * dot w (matVec (subMat K T) w) := by
  intro T muT w
  rw [objective_spec K hsym n b hb .greedy inv eps m k bi p hbi hp]
  rfl

/-- the ProtoDash objective as coded: `μ_x − Σ_{s∈S} K_xs μ_s` (only its first step, `μ_x`, is
    fixed by the property; see `protodash_first`). -/
theorem protodash_objective_spec (K : Kern) (hsym : ∀ i j, K i j = K j i) (n b : Nat) (hb : 0 < b)
    (inv : List (List Rat) → List (List Rat)) (eps : Rat) (m k bi p : Nat)
    (hbi : bi < (batches b (List.range n)).length)
    (hp : p < ((batches b (List.range n)).getD bi []).length) :
    let S := (reached K n b .dash inv eps m k).cases
    let x := bi * b + p
    (evalCand (cfgOf K n b .dash inv eps) (reached K n b .dash inv eps m k) bi
        ((batches b (List.range n)).getD bi []) p).obj
      = mu K (List.range n) x - sumQ (S.map fun s => K x s * mu K (List.range n) s) := by
  intro S x
  rw [objective_spec K hsym n b hb .dash inv eps m k bi p hbi hp]
  rfl

/-- for every batch size the selected cases (in selection order) and the raw weight vector of the
    model of the implementation are those of the batch-free reference run, and the selected cases are
    the greedy first-arg-max selection of the documented objective. -/
theorem greedy_impl_eq_spec (K : Kern) (hsym : ∀ i j, K i j = K j i) (n b : Nat) (hb : 0 < b)
    (meth : Method) (inv : List (List Rat) → List (List Rat)) (eps : Rat) (m : Nat) :
    ((run (cfgOf K n b meth inv eps) m).cases, (run (cfgOf K n b meth inv eps) m).w)
        = specRun meth inv eps K (List.range n) m ∧
    (run (cfgOf K n b meth inv eps) m).cases = greedySpec (objSpec meth inv eps K (List.range n)) (List.range n) m := by
  obtain ⟨h1, h2, _⟩ := runFrom_cfgOf K hsym n b hb meth inv eps m m
  exact ⟨Prod.ext h1 h2, run_cases K hsym n b hb meth inv eps m⟩

/-- selection, selection order and weights (raw and normalised) do not depend on the batch size. -/
theorem proto_batching_indep (K : Kern) (hsym : ∀ i j, K i j = K j i) (n b b' : Nat) (hb : 0 < b)
    (hb' : 0 < b') (meth : Method) (inv : List (List Rat) → List (List Rat)) (eps : Rat) (m : Nat) :
    (run (cfgOf K n b meth inv eps) m).cases = (run (cfgOf K n b' meth inv eps) m).cases ∧
    (run (cfgOf K n b meth inv eps) m).w = (run (cfgOf K n b' meth inv eps) m).w ∧
    normalize (run (cfgOf K n b meth inv eps) m).w = normalize (run (cfgOf K n b' meth inv eps) m).w := by
  obtain ⟨h1, h2, _⟩ := runFrom_cfgOf K hsym n b hb meth inv eps m m
  obtain ⟨h1', h2', _⟩ := runFrom_cfgOf K hsym n b' hb' meth inv eps m m
  exact ⟨h1.trans h1'.symm, h2.trans h2'.symm, congrArg normalize (h2.trans h2'.symm)⟩

open Xp.Lime in
/-- translation invariance: for a kernel that is a function of the squared Euclidean distance (the default rbf), adding a common
    offset to every case changes no kernel value, hence neither the selected prototypes, their order nor their weights -/
theorem proto_translation_invariant (κ : Rat → Rat) (pts : Nat → List Rat) (c : Rat) (n b : Nat) (meth : Method)
    (inv : List (List Rat) → List (List Rat)) (eps : Rat) (m : Nat) :
    run (cfgOf (fun i j => κ (sqDist ((pts i).map (· + c)) ((pts j).map (· + c)))) n b meth inv eps) m
      = run (cfgOf (fun i j => κ (sqDist (pts i) (pts j))) n b meth inv eps) m := by
  simp only [sqDist_translation]

/-- `batch_size = None` (one batch holding everything) is the special case `b = n` -/
theorem proto_bs_indep (K : Kern) (hsym : ∀ i j, K i j = K j i) (n b : Nat) (hn : 0 < n) (hb : 0 < b)
    (meth : Method) (inv : List (List Rat) → List (List Rat)) (eps : Rat) (m : Nat) :
    (run (cfgOf K n b meth inv eps) m).cases = (run (cfgOf K n (effBatch none n) meth inv eps) m).cases ∧
    (run (cfgOf K n b meth inv eps) m).w = (run (cfgOf K n (effBatch none n) meth inv eps) m).w :=
  let h := proto_batching_indep K hsym n b n hb hn meth inv eps m
  ⟨h.1, h.2.1⟩

/-- the `(batch, position)` pairs stored in `prototypes_indices` are real positions, and the flat
    index `batch * batch_size + position` (the GENERATED `Gen.flatIndex`) of the `t`-th pair is the
    `t`-th selected dataset row. -/
theorem proto_indices_flat (K : Kern) (hsym : ∀ i j, K i j = K j i) (n b : Nat) (hb : 0 < b)
    (meth : Method) (inv : List (List Rat) → List (List Rat)) (eps : Rat) (m : Nat) :
    (run (cfgOf K n b meth inv eps) m).idx.map (fun q => Gen.flatIndex (q.1 : Int) (b : Int) (q.2 : Int))
      = (run (cfgOf K n b meth inv eps) m).cases.map Int.ofNat ∧
    ∀ q ∈ (run (cfgOf K n b meth inv eps) m).idx, q.2 < b ∧ q.1 * b + q.2 < n := by
  obtain ⟨_, _, hinv⟩ := runFrom_cfgOf K hsym n b hb meth inv eps m m
  have hpos : ∀ q ∈ (run (cfgOf K n b meth inv eps) m).idx,
      phi (cfgOf K n b meth inv eps) q = q.1 * b + q.2 ∧ q.2 < b ∧ q.1 * b + q.2 < n :=
    fun q hq => batches_range_pos n b hb q.1 q.2 (hinv.valid q hq).2
  constructor
  · rw [show (run (cfgOf K n b meth inv eps) m).cases = _ from hinv.cases_eq, List.map_map]
    apply List.map_congr_left
    intro q hq
    rw [flatIndex_natCast]
    exact congrArg Int.ofNat (hpos q hq).1.symm
  · exact fun q hq => (hpos q hq).2

/-- as long as fewer than `n` cases are selected, step `m + 1` of the model of the implementation
    (any batch size) appends the FIRST maximiser, in dataset order, of the documented objective over
    the cases not selected yet. -/
theorem greedy_argmax (K : Kern) (hsym : ∀ i j, K i j = K j i) (n b : Nat) (hb : 0 < b)
    (meth : Method) (inv : List (List Rat) → List (List Rat)) (eps : Rat) (m : Nat) (hm : m < n) :
    let S := (run (cfgOf K n b meth inv eps) m).cases
    let obj := objSpec meth inv eps K (List.range n) S
    ∃ c, (run (cfgOf K n b meth inv eps) (m + 1)).cases = S ++ [c] ∧ c < n ∧ c ∉ S ∧
      (∀ y, y < n → y ∉ S → obj y ≤ obj c) ∧ (∀ y, y < c → y ∉ S → obj y < obj c) := by
  intro S obj
  have h := greedySpec_argmax (objSpec meth inv eps K (List.range n)) n m hm
  rw [← run_cases K hsym n b hb meth inv eps (m + 1), ← run_cases K hsym n b hb meth inv eps m] at h
  exact h

/-- for `nb_prototypes ≤ n` the selected dataset rows are pairwise distinct, lie in the dataset, and
    there are exactly `nb_prototypes` of them (and of the reported index pairs). -/
theorem selected_distinct (K : Kern) (hsym : ∀ i j, K i j = K j i) (n b : Nat) (hb : 0 < b)
    (meth : Method) (inv : List (List Rat) → List (List Rat)) (eps : Rat) (m : Nat) (hm : m ≤ n) :
    (run (cfgOf K n b meth inv eps) m).cases.Nodup ∧
    (run (cfgOf K n b meth inv eps) m).cases.length = m ∧
    (∀ c ∈ (run (cfgOf K n b meth inv eps) m).cases, c < n) ∧
    (run (cfgOf K n b meth inv eps) m).idx.Nodup ∧
    (run (cfgOf K n b meth inv eps) m).idx.length = m := by
  obtain ⟨f1, f2, f3⟩ := greedySpec_facts (objSpec meth inv eps K (List.range n)) (List.range n)
    List.nodup_range m (by rw [List.length_range]; exact hm)
  rw [← run_cases K hsym n b hb meth inv eps m] at f1 f2 f3
  have hidx : (run (cfgOf K n b meth inv eps) m).cases = _ :=
    (runFrom_cfgOf K hsym n b hb meth inv eps m m).2.2.cases_eq
  refine ⟨f1, f2, fun c hc => List.mem_range.mp (f3 c hc), ?_, ?_⟩
  · rw [hidx] at f1
    exact List.Nodup.of_map _ f1
  · rw [hidx, List.length_map] at f2
    exact f2

/-- ProtoDash: for every batch size and every `nb_prototypes ≥ 1`, the first selected case is the
    FIRST case of the dataset with the largest mean kernel value. -/
theorem protodash_first (K : Kern) (hsym : ∀ i j, K i j = K j i) (n b : Nat) (hn : 0 < n) (hb : 0 < b)
    (inv : List (List Rat) → List (List Rat)) (eps : Rat) (m : Nat) (hm : 1 ≤ m) :
    ∃ c, (run (cfgOf K n b .dash inv eps) m).cases.head? = some c ∧ c < n ∧
      (∀ y, y < n → mu K (List.range n) y ≤ mu K (List.range n) c) ∧
      (∀ y, y < c → mu K (List.range n) y < mu K (List.range n) c) := by
  have h1 := run_cases K hsym n b hb .dash inv eps m
  obtain ⟨c, hc1, hc2, _, hc4, hc5⟩ := greedySpec_argmax (objSpec .dash inv eps K (List.range n)) n 0 hn
  -- nothing is selected before the first step, and the ProtoDash objective of the empty selection is the column mean
  have h0 : greedySpec (objSpec .dash inv eps K (List.range n)) (List.range n) 0 = [] := rfl
  have hobj : ∀ y, objSpec .dash inv eps K (List.range n) [] y = mu K (List.range n) y :=
    fun y => sub_zero _
  rw [h0] at hc1 hc4 hc5
  simp only [hobj] at hc4 hc5
  obtain ⟨t, ht⟩ := greedySpec_prefix (objSpec .dash inv eps K (List.range n)) (List.range n) 1 m hm
  refine ⟨c, ?_, hc2, fun y hy => hc4 y hy List.not_mem_nil, fun y hy => hc5 y hy List.not_mem_nil⟩
  rw [h1, ← ht, hc1]
  rfl

/-- every raw weight is non-negative (for the three methods, any batch size, any `inv`), and whenever
    the final normalisation is defined (`Σ w ≠ 0`; otherwise the code divides 0 by 0) the returned
    weights are non-negative, as many as the raw ones, and sum to one. -/
theorem weights_simplex (K : Kern) (hsym : ∀ i j, K i j = K j i) (n b : Nat) (hb : 0 < b)
    (meth : Method) (inv : List (List Rat) → List (List Rat)) (eps : Rat) (m : Nat) :
    (∀ v ∈ (run (cfgOf K n b meth inv eps) m).w, 0 ≤ v) ∧
    ∀ w', normalize (run (cfgOf K n b meth inv eps) m).w = some w' →
      (∀ v ∈ w', 0 ≤ v) ∧ sumQ w' = 1 ∧ w'.length = (run (cfgOf K n b meth inv eps) m).w.length := by
  have hnn : ∀ v ∈ (run (cfgOf K n b meth inv eps) m).w, 0 ≤ v := by
    rw [show (run (cfgOf K n b meth inv eps) m).w = _ from
      (runFrom_cfgOf K hsym n b hb meth inv eps m m).2.1]
    exact specRunFrom_nonneg _ _ _ _ _ _ (fun v hv => by rw [(List.mem_replicate.mp hv).2]) m
  exact ⟨hnn, fun w' h => normalize_simplex _ w' hnn h⟩

/-- MMD-critic: for `1 ≤ nb_prototypes ≤ n` every prototype gets the weight `1 / nb_prototypes` (for
    every batch size). -/
theorem mmd_weights_uniform (K : Kern) (hsym : ∀ i j, K i j = K j i) (n b : Nat) (hb : 0 < b)
    (inv : List (List Rat) → List (List Rat)) (eps : Rat) (m : Nat) (hm1 : 1 ≤ m) (hm : m ≤ n) :
    normalize (run (cfgOf K n b .mmd inv eps) m).w = some (List.replicate m (1 / (m : Rat))) := by
  have hlen := specRunFrom_len .mmd inv eps K n (List.replicate m 0) m hm
  have hw : (run (cfgOf K n b .mmd inv eps) m).w = List.replicate m 1 := by
    rw [show (run (cfgOf K n b .mmd inv eps) m).w = _ from
        (runFrom_cfgOf K hsym n b hb .mmd inv eps m m).2.1,
      specRunFrom_weights .mmd inv eps K (List.range n) _ (fun T => List.replicate T.length 1)
        (fun T => List.length_replicate ..) (fun _ _ _ => rfl) m,
      hlen, List.drop_replicate, Nat.sub_self]
    exact List.append_nil _
  have hsum : sumQ (List.replicate m (1 : Rat)) = (m : Rat) := by
    have h := sumQ_map_const (List.replicate m ()) (1 : Rat)
    rw [List.map_replicate, List.length_replicate, mul_one] at h
    exact h
  unfold normalize
  simp only
  rw [hw, hsum, if_neg (Nat.cast_ne_zero.mpr (Nat.ne_of_gt hm1)), List.map_replicate]

/-- ProtoGreedy: for `1 ≤ nb_prototypes ≤ n`, if `inv` returns a matrix with as many rows as its
    argument (true of a matrix inverse), the raw weights are the documented optimal weights
    `max((K_S + eps I)⁻¹ μ_S, 0)` of the final selection `S`, from the full kernel matrix. -/
theorem protogreedy_weights (K : Kern) (hsym : ∀ i j, K i j = K j i) (n b : Nat) (hb : 0 < b)
    (inv : List (List Rat) → List (List Rat)) (hinv : ∀ M, (inv M).length = M.length) (eps : Rat)
    (m : Nat) (hm1 : 1 ≤ m) (hm : m ≤ n) :
    (run (cfgOf K n b .greedy inv eps) m).w
      = pgSpecWeights inv eps K (List.range n) (run (cfgOf K n b .greedy inv eps) m).cases := by
  have hlen := specRunFrom_len .greedy inv eps K n (List.replicate m 0) m hm
  obtain ⟨hc, hw, _⟩ := runFrom_cfgOf K hsym n b hb .greedy inv eps m m
  rw [show (run (cfgOf K n b .greedy inv eps) m).w = _ from hw,
    show (run (cfgOf K n b .greedy inv eps) m).cases = _ from hc,
    specRunFrom_weights .greedy inv eps K (List.range n) _ _ (pgSpecWeights_length inv hinv eps K _)
      (fun _ _ _ => rfl) m,
    hlen, List.drop_replicate, Nat.sub_self]
  exact List.append_nil _

/-- the flat index computed by `format_search_output` (GENERATED `Gen.flatIndex`) inverts the
    `(batch, position)` pair under which `KNN` (batch size `bs`) reports the `t`-th prototype -/
theorem flat_index_roundtrip (bs t : Nat) :
    (Gen.flatIndex ((knnPair bs t).1 : Int) (bs : Int) ((knnPair bs t).2 : Int)).toNat = t := by
  unfold knnPair
  rw [flatIndex_natCast, Int.toNat_natCast, Nat.mul_comm]
  exact Nat.div_add_mod t bs

/-- local explanations: `format_search_output` turns the `(batch, position)` pairs under which `KNN`
    (batch size `bs ≥ 1`, run over the list of prototypes) reports the `k` nearest prototypes into
    exactly the dataset indices and labels of those prototypes. -/
theorem local_spec (bs k : Nat) (hbs : 0 < bs) (protoIdx : List (Nat × Nat)) (labels dist : List Rat) :
    localExplain bs k protoIdx labels dist
      = (kNearest dist k).map fun d => (d.1, protoIdx.getD d.2 (0, 0), labels.getD d.2 0) := by
  unfold localExplain formatOutput
  simp only
  rw [List.map_map, zipWith_map_right_self]
  apply List.map_congr_left
  intro d _
  simp only [Function.comp]
  rw [flat_index_roundtrip bs d.2]

/-- the positions returned by the model of the local search are the length-`k` prefix of a
    distance-sorted permutation of ALL prototypes; in particular no prototype left out is closer than
    a returned one. -/
theorem local_nearest (dist : List Rat) (k : Nat) :
    ∃ full : List (Rat × Nat), full.Perm dist.zipIdx ∧ full.Pairwise (fun a b => a.1 ≤ b.1) ∧
      kNearest dist k = full.take k ∧
      ∀ a ∈ kNearest dist k, ∀ c ∈ full.drop k, a.1 ≤ c.1 := by
  obtain ⟨full, h1, h2, h3⟩ := kNearest_spec dist k
  refine ⟨full, h1, h2, h3, ?_⟩
  intro a ha c hc
  rw [h3] at ha
  have := h2
  rw [← List.take_append_drop k full, List.pairwise_append] at this
  exact this.2.2 a ha c hc

/-! ### non-vacuity: a concrete symmetric kernel, several batchings -/

def exK : Kern := fun i j => 1 / (1 + (((i : Int) - (j : Int)) * ((i : Int) - (j : Int)) : Int))

example : ∀ i j, exK i j = exK j i := by
  intro i j
  unfold exK
  congr 2
  push_cast
  ring

example : (run (cfgOf exK 5 2 .mmd (fun M => M) 0) 3).cases = [2, 0, 4] := by decide +kernel
example : (run (cfgOf exK 5 2 .mmd (fun M => M) 0) 3).idx = [(1, 0), (0, 0), (2, 0)] := by decide +kernel
example : (run (cfgOf exK 5 5 .mmd (fun M => M) 0) 3).cases = (run (cfgOf exK 5 1 .mmd (fun M => M) 0) 3).cases := by
  decide +kernel
example : (triangular exK (batches 2 (List.range 5))).nb = 5 := by decide +kernel
example : greedySpec (objSpec .dash (fun M => M) 0 exK (List.range 5)) (List.range 5) 2 = [2, 0] := by
  decide +kernel
example : kNearest [3, 1, 2, 1] 2 = [(1, 1), (1, 3)] := by decide +kernel
example : localExplain 2 2 [(0, 1), (2, 0), (1, 1)] [10, 20, 30] [5, 1, 3] = [(1, (2, 0), 20), (3, (1, 1), 30)] := by
  decide +kernel

end Xp.ProtoSel
