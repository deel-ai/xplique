/-
  C08 — Sobol / HSIC designs and estimators compute the published sensitivity indices.

  The slice bounds of `split_abc` are GENERATED from the source.  Divisions of the code are
  `Option`-valued: `none` is the ZeroDivisionError / NaN of the implementation, and the guards
  (`2 ≤ n`, `varQ ya ≠ 0`) are explicit hypotheses.

  Remark on normalisations (recorded, not hidden): the module divides the centred second moment
  by `n - 1` everywhere (Janon: `1/(n-1) Σ (a²+c²)/2 − μ²`; Glen: covariance with `1/(n-1)`,
  variances with `1/n`).  The reference formulas below are the published ones with that
  normalisation; they differ from the papers' `1/n` versions by a factor `1 + O(1/n)`.
-/
import XpModel.Sobol
import XpProofs.Lemmas.Sobol
import XpProofs.Lemmas.FinsetSum
import XpModel.Hsic
import XpModel.Gsa
import XpProofs.Lemmas.Hsic
import XpProofs.Lemmas.Batching

namespace Xp.Sobol

/-- the matrix returned by every replicated sampler is
    `A ++ B ++ C_0 ++ … ++ C_{d-1}` where `C_i` is `A` with column `i` taken from `B`. -/
theorem replicated_structure (A B : List (List Rat)) (d : Nat) :
    design A B d = specDesign A B d := by
  rw [design, specDesign, buildReplicated, replC_eq, List.flatMap_def]

/-- index form: rows `< n` are `A`, rows `n..2n` are `B`, row `2n + i·n + a` is row `a` of `A`
    with its entry `i` replaced by `B[a][i]`. -/
theorem replicated_rows (A B : List (List Rat)) (d n : Nat) (hA : A.length = n) (hB : B.length = n) :
    (∀ a, a < n → (design A B d)[a]? = A[a]?) ∧
    (∀ a, a < n → (design A B d)[n + a]? = B[a]?) ∧
    (∀ i a, i < d → a < n →
      (design A B d)[2 * n + i * n + a]? =
        (A[a]?).bind fun ra => (B[a]?).map fun rb => ra.set i (rb.getD i 0)) := by
  subst hA
  have hAB : (A ++ B).length = 2 * A.length := by rw [List.length_append, hB, Nat.two_mul]
  rw [design, buildReplicated, replC_eq]
  refine ⟨fun a ha => ?_, fun a ha => ?_, fun i a hi ha => ?_⟩
  · rw [List.append_assoc, List.getElem?_append_left ha]
  · rw [List.append_assoc, List.getElem?_append_right (Nat.le_add_right ..), Nat.add_sub_cancel_left,
      List.getElem?_append_left (hB ▸ ha)]
  · rw [Nat.add_assoc, ← hAB, List.getElem?_append_right (Nat.le_add_right ..), Nat.add_sub_cancel_left,
      getElem?_flatten_uniform _ A.length _ i a ha, List.getElem?_map, List.getElem?_range hi]
    · exact getElem?_specBlock A B i a
    · intro l hl
      obtain ⟨j, _, rfl⟩ := List.mem_map.mp hl
      exact specBlock_length A B j hB.symm

/-- `h0`: the filler `0` of a ragged `B`, which cannot occur for rectangular input -/
private theorem design_entries (P : Rat → Prop) (h0 : P 0) (A B : List (List Rat)) (d : Nat)
    (hA : ∀ r ∈ A, ∀ v ∈ r, P v) (hB : ∀ r ∈ B, ∀ v ∈ r, P v) :
    ∀ r ∈ design A B d, ∀ v ∈ r, P v := by
  rw [replicated_structure, specDesign]
  intro r hr v hv
  rcases List.mem_append.mp hr with hr | hr
  · rcases List.mem_append.mp hr with hr | hr
    · exact hA r hr v hv
    · exact hB r hr v hv
  · obtain ⟨i, _, hr⟩ := List.mem_flatMap.mp hr
    rw [specBlock, zipWith_eq_map_zip] at hr
    obtain ⟨p, hp, rfl⟩ := List.mem_map.mp hr
    rcases List.mem_or_eq_of_mem_set hv with hv | rfl
    · exact hA p.1 (List.of_mem_zip hp).1 v hv
    · exact getD_forall h0 (hB p.2 (List.of_mem_zip hp).2) i

/-- if `A` and `B` have their values in `[0, 1]`, so has the design -/
theorem replicated_range (A B : List (List Rat)) (d : Nat)
    (hA : ∀ r ∈ A, ∀ v ∈ r, 0 ≤ v ∧ v ≤ 1) (hB : ∀ r ∈ B, ∀ v ∈ r, 0 ≤ v ∧ v ≤ 1) :
    ∀ r ∈ design A B d, ∀ v ∈ r, 0 ≤ v ∧ v ≤ 1 :=
  design_entries (fun v => 0 ≤ v ∧ v ≤ 1) ⟨le_refl 0, zero_le_one⟩ A B d hA hB

/-- binary `A`, `B` give a binary design -/
theorem replicated_binary (A B : List (List Rat)) (d : Nat)
    (hA : ∀ r ∈ A, ∀ v ∈ r, v = 0 ∨ v = 1) (hB : ∀ r ∈ B, ∀ v ∈ r, v = 0 ∨ v = 1) :
    ∀ r ∈ design A B d, ∀ v ∈ r, v = 0 ∨ v = 1 :=
  design_entries (fun v => v = 0 ∨ v = 1) (Or.inl rfl) A B d hA hB

private theorem splitABC_nat (ys : List α) (n d : Nat) :
    splitABC ys n d = (ys.take n, (ys.take (n + n)).drop n,
      (List.range d).map fun i => (ys.take (n + n + (n * i + n))).drop (n + n + n * i)) := by
  have eB : Gen.splitBHi (n : Int) = ((n + n : Nat) : Int) := by rw [Gen.splitBHi, mul_two, Int.natCast_add]
  have eLo (i : Nat) : Gen.splitCLo (n : Int) (i : Int) = ((n + n + n * i : Nat) : Int) := by
    rw [Gen.splitCLo, mul_two, Int.natCast_add, Int.natCast_add, Int.natCast_mul]
  have eHi (i : Nat) : Gen.splitCHi (n : Int) (i : Int) = ((n + n + (n * i + n) : Nat) : Int) := by
    rw [Gen.splitCHi, mul_two, mul_add, mul_one, Int.natCast_add, Int.natCast_add, Int.natCast_add,
      Int.natCast_mul]
  show (slice ys ((0 : Nat) : Int) (n : Int), slice ys (n : Int) (Gen.splitBHi n),
    (List.range d).map fun i : Nat => slice ys (Gen.splitCLo n i) (Gen.splitCHi n i)) = _
  simp only [eB, eLo, eHi, slice_nat]
  rfl

/-- splitting the concatenation `ya ++ yb ++ yc_0 ++ … ++ yc_{d-1}` with the
    source's slice bounds gives back the pieces.  Stops compiling if a bound changes meaning. -/
theorem split_roundtrip (ya yb : List α) (ycs : List (List α)) (n d : Nat)
    (ha : ya.length = n) (hb : yb.length = n) (hd : ycs.length = d) (hc : ∀ l ∈ ycs, l.length = n) :
    splitABC (ya ++ yb ++ ycs.flatten) n d = (ya, yb, ycs) := by
  subst ha hd
  have hab : ya.length + ya.length = (ya ++ yb).length := by rw [List.length_append, hb]
  rw [splitABC_nat]
  refine Prod.ext ?_ (Prod.ext ?_ ?_)
  · exact (congrArg (List.take ya.length) (List.append_assoc ..)).trans List.take_left
  · show List.drop _ (List.take _ _) = yb
    rw [hab, List.take_left' rfl, List.drop_left]
  · show List.map _ _ = ycs
    apply List.ext_getElem (by rw [List.length_map, List.length_range])
    intro i h1 h2
    rw [List.getElem_map, List.getElem_range, hab, List.take_length_add_append, List.drop_length_add_append]
    exact drop_take_flatten_uniform ycs ya.length hc i h2

/-- outputs computed row by row on the design split into `f∘A`, `f∘B` and, for every `i`,
    `f∘C_i` -/
theorem split_design (f : List Rat → α) (A B : List (List Rat)) (n d : Nat)
    (hA : A.length = n) (hB : B.length = n) :
    splitABC ((design A B d).map f) n d
      = (A.map f, B.map f, (List.range d).map fun i => (specBlock A B i).map f) := by
  rw [design, buildReplicated, replC_eq, List.map_append, List.map_append, List.map_flatten, List.map_map]
  apply split_roundtrip _ _ _ n d (by rw [List.length_map, hA]) (by rw [List.length_map, hB])
    (by rw [List.length_map, List.length_range])
  intro l hl
  obtain ⟨i, _, rfl⟩ := List.mem_map.mp hl
  rw [Function.comp, List.length_map, specBlock_length A B i (hA.trans hB.symm), hA]

/-- for `n ≥ 2` outputs with non-zero variance the coded Jansen estimator is
    defined and equals `[1/(2n) Σ (f(A) − f(C_i))²] / V`. -/
theorem jansen_formula (n : Nat) (ya yc : List Rat) (hn : ya.length = n) (h2 : 2 ≤ n)
    (hv : varQ ya ≠ 0) : jansenOne n ya yc = some (jansenSpec ya yc) := by
  have hn0 : (n : Rat) ≠ 0 := Nat.cast_ne_zero.mpr (by omega)
  rw [jansenOne_eq, if_pos (hn ▸ h2), qdiv_ne _ _ (mul_ne_zero (mul_ne_zero two_ne_zero hn0) hv), jansenSpec,
    hn, div_div]

/-- without variance (or with fewer than two design points) the code divides by zero: the model
    returns `none` (the implementation raises / returns NaN), it is never silently `0` -/
theorem jansen_undefined (n : Nat) (ya yc : List Rat) (h : ya.length < 2 ∨ varQ ya = 0 ∨ n = 0) :
    jansenOne n ya yc = none := by
  rw [jansenOne_eq]
  split
  · rcases h with h | h | h
    · omega
    · rw [h, mul_zero, qdiv_zero]
    · rw [h, Nat.cast_zero, mul_zero, zero_mul, qdiv_zero]
  · rfl

/-- the coded Saltelli estimator, under the same guards, is `1 − (1/N Σ f(A) f(C_i) − f0²) / V` -/
theorem saltelli_formula (n : Nat) (ya yc : List Rat) (hn : ya.length = n) (h2 : 2 ≤ n)
    (hv : varQ ya ≠ 0) : saltelliOne n ya yc = some (saltelliSpec ya yc) := by
  rw [saltelliOne_eq, if_pos ⟨hn ▸ h2, by omega⟩, qdiv_ne _ _ hv, one_div_mul_eq_div, saltelliSpec, hommaSpec, hn]
  rfl

/-- the coded Homma estimator `(V − U + f0²)/V` is the published `1 − (U − f0²)/V` -/
theorem homma_formula (n : Nat) (ya yc : List Rat) (hn : ya.length = n) (h2 : 2 ≤ n)
    (hv : varQ ya ≠ 0) : hommaOne n ya yc = some (hommaSpec ya yc) :=
  (hommaOne_eq_saltelliOne n ya yc).trans (saltelli_formula n ya yc hn h2 hv)

theorem homma_eq_saltelli (n : Nat) (ya yc : List Rat) (hn : ya.length = n) (h2 : 2 ≤ n)
    (hv : varQ ya ≠ 0) : hommaOne n ya yc = saltelliOne n ya yc :=
  hommaOne_eq_saltelliOne n ya yc

/-- the coded Janon estimator, for `n ≥ 2` and non-zero pooled variance, is the published `T_N` (mean and second
    moment pooled over `f(A)` and `f(C_i)`, second moment normalised by `n − 1` as in the code) -/
theorem janon_formula (n : Nat) (ya yc : List Rat) (hn : ya.length = n) (hc : yc.length = n)
    (h2 : 2 ≤ n) (hv : janonVar ya yc ≠ 0) : janonOne n ya yc = some (janonSpec ya yc) := by
  have hn0 : (n : Rat) ≠ 0 := Nat.cast_ne_zero.mpr (by omega)
  -- the code sums over the pairs, the reference over `f(A)` and `f(C_i)` separately
  have hsum : sumQ (List.zipWith (· + ·) ya yc) = sumQ ya + sumQ yc := by
    have := sumQ_zipWith_add id id ya yc (hn.trans hc.symm)
    rwa [List.map_id, List.map_id] at this
  have hsumSq := sumQ_zipWith_add sq sq ya yc (hn.trans hc.symm)
  -- the code normalises as `1/n · S / 2` and `1/(n−1) · S₂ / 2`, the reference as `S / (2n)` and `S₂ / (2(n−1))`
  have hnorm (d x : Rat) : 1 / d * x / 2 = x / (2 * d) := by rw [one_div_mul_eq_div, div_div, mul_comm]
  unfold janonVar at hv
  unfold janonOne janonSpec
  rw [qdiv_ne _ _ hn0, qdiv_ne _ _ (cast_sub_one_ne_zero h2), hsum, hsumSq]
  simp only [Option.bind_eq_bind, Option.bind_some]
  rw [hnorm, hnorm, hn.symm, qdiv_ne _ _ hv, one_div_mul_eq_div]
  rfl

/-- with `root` standing for `(var_a · var_c)^{1/2}` (square root is a
    parameter of the model) the coded Glen–Isaacs estimator is `1 − cov_{n-1}(f(A), f(C_i)) / root` -/
theorem glen_formula (n : Nat) (root : Rat) (ya yc : List Rat) (hn : ya.length = n)
    (hc : yc.length = n) (h2 : 2 ≤ n) (hr : root ≠ 0) :
    glenOne n root ya yc = some (glenSpec root ya yc) := by
  have hne : ya ≠ [] := List.ne_nil_of_length_pos (by omega)
  have hnc : yc ≠ [] := List.ne_nil_of_length_pos (by omega)
  unfold glenOne glenSpec
  rw [meanO_eq, if_neg hne, meanO_eq, if_neg hnc, qdiv_ne _ _ (cast_sub_one_ne_zero h2)]
  simp only [Option.bind_eq_bind, Option.bind_some]
  rw [qdiv_ne _ _ hr, one_div_mul_eq_div, hn]
  rfl

/-- whenever the coded estimator returns a number it is non-negative
    (it returns one exactly when `n ≥ 2`, `n_design ≠ 0` and the variance is non-zero) -/
theorem jansen_nonneg (n : Nat) (ya yc : List Rat) (r : Rat) (h : jansenOne n ya yc = some r) :
    0 ≤ r := by
  rw [jansenOne_eq] at h
  split at h
  · obtain ⟨_, rfl⟩ := qdiv_some h
    exact div_nonneg (sumSqDiff_nonneg ya yc)
      (mul_nonneg (mul_nonneg zero_le_two n.cast_nonneg) (varQ_nonneg ya ‹_›))
  · cases h

theorem jansen_defined_nonneg (n : Nat) (ya yc : List Rat) (hn : ya.length = n) (h2 : 2 ≤ n)
    (hv : 0 < varQ ya) : ∃ r, jansenOne n ya yc = some r ∧ 0 ≤ r :=
  have h := jansen_formula n ya yc hn h2 (ne_of_gt hv)
  ⟨_, h, jansen_nonneg n ya yc _ h⟩

/-- if the outputs on `C_i` equal the outputs on `A` the index is exactly 0 -/
theorem jansen_zero_inert (n : Nat) (ya : List Rat) (r : Rat) (h : jansenOne n ya ya = some r) :
    r = 0 := by
  rw [jansenOne_eq, sumSqDiff_self] at h
  split at h
  · rw [(qdiv_some h).2, zero_div]
  · cases h

theorem inert_outputs (f : List Rat → Rat) (i : Nat) (hf : ∀ x v, f (x.set i v) = f x)
    (A B : List (List Rat)) (h : A.length = B.length) : (specBlock A B i).map f = A.map f := by
  rw [specBlock, List.map_zipWith, zipWith_eq_map_zip]
  simp only [hf]
  exact map_zip_fst f A B (Nat.le_of_eq h)

/-- a score that ignores coordinate `i` has the same outputs on `C_i` as on `A`: its Jansen index of dimension `i`
    on the whole replicated design is exactly zero (for every design size and every other behaviour of `f`) -/
theorem jansen_zero_inert_design (f : List Rat → Rat) (A B : List (List Rat)) (n d i : Nat)
    (hA : A.length = n) (hB : B.length = n) (hi : i < d) (hf : ∀ x v, f (x.set i v) = f x)
    (r : Rat) (h : (estimate .jansen ((design A B d).map f) n d)[i]? = some (some r)) : r = 0 := by
  unfold estimate at h
  rw [split_design f A B n d hA hB] at h
  simp only [List.getElem?_map, List.getElem?_range hi, Option.map_some, estOne] at h
  rw [inert_outputs f i hf A B (hA.trans hB.symm)] at h
  exact jansen_zero_inert n _ r (Option.some.inj h)

/-- the Jansen index does not change under `y ↦ α·y + β`, `α ≠ 0` (including
    the undefined case: both sides are `none` together) -/
theorem jansen_affine (n : Nat) (ya yc : List Rat) (a b : Rat) (ha : a ≠ 0) :
    jansenOne n (ya.map fun v => a * v + b) (yc.map fun v => a * v + b) = jansenOne n ya yc := by
  rw [jansenOne_eq, jansenOne_eq, List.length_map, varQ_affine, sumSqDiff_affine, mul_left_comm,
    qdiv_scale _ _ _ (mul_ne_zero ha ha)]

/-- the Saltelli estimator is invariant under `y ↦ α·y`, `α ≠ 0`; so are Homma and Janon (next two theorems).
    (Shift invariance is NOT claimed for them: as coded they combine `μ_A²` with `Σ a·c`.) -/
theorem saltelli_scale (n : Nat) (ya yc : List Rat) (a : Rat) (ha : a ≠ 0) :
    saltelliOne n (ya.map fun v => a * v) (yc.map fun v => a * v) = saltelliOne n ya yc := by
  -- numerator and denominator both pick up the factor `α²`
  have hnum : 1 / (n : Rat) * (a * a * sumProd ya yc) - sq (a * meanQ ya)
      = a * a * (1 / n * sumProd ya yc - sq (meanQ ya)) := by unfold sq; ring
  rw [saltelliOne_eq, saltelliOne_eq, List.length_map, varQ_scale, meanQ_scale, sumProd_scale, hnum,
    qdiv_scale _ _ _ (mul_ne_zero ha ha)]

theorem homma_scale (n : Nat) (ya yc : List Rat) (a : Rat) (ha : a ≠ 0) :
    hommaOne n (ya.map fun v => a * v) (yc.map fun v => a * v) = hommaOne n ya yc := by
  rw [hommaOne_eq_saltelliOne, hommaOne_eq_saltelliOne]
  exact saltelli_scale n ya yc a ha

theorem janon_scale (n : Nat) (ya yc : List Rat) (a : Rat) (ha : a ≠ 0) :
    janonOne n (ya.map fun v => a * v) (yc.map fun v => a * v) = janonOne n ya yc := by
  unfold janonOne
  rw [sumProd_scale, sumQ_zipWith_map _ (· + ·) _ a (fun x y => (mul_add a x y).symm),
    sumQ_zipWith_map _ (fun x c => sq x + sq c) _ (a * a) (fun x y => by unfold sq; ring)]
  generalize sumQ (List.zipWith (· + ·) ya yc) = S
  generalize sumQ (List.zipWith (fun a c => sq a + sq c) ya yc) = S₂
  generalize sumProd ya yc = P
  -- the guards `qdiv 1 n`, `qdiv 1 (n − 1)` do not mention the outputs: they are the same terms on both sides and
  -- `bind_congr` steps over them (Saltelli's `meanO`, `sampleVar` are taken of the scaled list, hence `saltelliOne_eq`)
  refine Option.bind_congr fun inv _ => Option.bind_congr fun inv1 _ => ?_
  -- numerator and denominator both pick up the factor `α²`
  have hnum : inv * (a * a * P) - sq (inv * (a * S) / 2) = a * a * (inv * P - sq (inv * S / 2)) := by
    unfold sq; ring
  have hden : inv1 * (a * a * S₂) / 2 - sq (inv * (a * S) / 2) = a * a * (inv1 * S₂ / 2 - sq (inv * S / 2)) := by
    unfold sq; ring
  dsimp only
  rw [hnum, hden, qdiv_scale _ _ _ (mul_ne_zero ha ha)]

private theorem addF_set (h : Nat → Rat → Rat) (d i : Nat) (hi : i < d) (ra : List Rat) (hra : i < ra.length)
    (v : Rat) : addF h d ra - addF h d (ra.set i v) = h i (ra.getD i 0) - h i v := by
  unfold addF
  -- the two sums differ in the term `i` only
  rw [← sumQ_map_sub, sumQ_range, Finset.sum_eq_single_of_mem i (Finset.mem_range.mpr hi)]
  · rw [List.getD_eq_getElem?_getD (l := ra.set i v), List.getElem?_set_self hra]
    rfl
  · intro j _ hj
    rw [List.getD_eq_getElem?_getD (l := ra.set i v), List.getElem?_set_ne (Ne.symm hj),
      ← List.getD_eq_getElem?_getD, sub_self]

/-- for an additive score the Jansen numerator of dimension `i`
    computed on the replicated design is `Σ_a (h_i(A_ai) − h_i(B_ai))²`: it depends on column `i`
    of `A` and `B` only.  Partial: the convergence of the estimators to the analytic indices as
    the design grows (a statement about QMC sequences) is NOT proved. -/
theorem jansen_additive_partial (h : Nat → Rat → Rat) (d i : Nat) (hi : i < d) (A B : List (List Rat))
    (hA : ∀ ra ∈ A, ra.length = d) (hlen : A.length = B.length) :
    sumSqDiff (A.map (addF h d)) ((specBlock A B i).map (addF h d))
      = sumQ (List.zipWith (fun ra rb => sq (h i (ra.getD i 0) - h i (rb.getD i 0))) A B) := by
  rw [sumSqDiff, specBlock, List.map_zipWith, ← map_zip_fst (addF h d) A B (Nat.le_of_eq hlen),
    zipWith_eq_map_zip _ A B, zipWith_map_map_self, zipWith_eq_map_zip _ A B]
  refine congrArg sumQ (List.map_congr_left fun p hp => ?_)
  rw [addF_set h d i hi p.1 (by rw [hA _ (List.of_mem_zip hp).1]; exact hi)]

/-! ## non-vacuity -/

example : design [[1, 2], [3, 4]] [[5, 6], [7, 8]] 2
    = [[1, 2], [3, 4], [5, 6], [7, 8], [5, 2], [7, 4], [1, 6], [3, 8]] := by decide +kernel
example : splitABC [0, 1, 5, 5, 1, 1, 0, 3] 2 2 = ([0, 1], [5, 5], [[1, 1], [0, 3]]) := by decide +kernel
example : varQ [0, 1] ≠ 0 ∧ (2 : Nat) ≤ [(0 : Rat), 1].length := by decide +kernel
example : estimate .jansen [0, 1, 5, 5, 1, 1, 0, 3] 2 2 = [some (1 / 2), some 2] := by decide +kernel
example : estimate .homma [0, 1, 5, 5, 1, 1, 0, 3] 2 2 = [some (1 / 2), some (-3 / 2)] := by decide +kernel
example : estimate .janon [0, 1, 5, 5, 1, 1, 0, 3] 2 2 = [some (16 / 15), some (7 / 8)] := by decide +kernel
example : janonVar [0, 1] [1, 1] ≠ 0 := by decide +kernel
/-- zero variance on `A`: undefined, not `0` -/
example : estimate .jansen [1, 1, 5, 5, 1, 2, 0, 3] 2 2 = [none, none] := by decide +kernel

end Xp.Sobol

namespace Xp.Hsic

theorem rawScores_eq (kern : InKernel) (g n bsz : Nat) (hb : 0 < bsz) (ms L : List (List Rat)) :
    rawScores kern g n bsz ms L
      = (List.range (g * g)).map fun k => scoreImpl n (gramIn kern n (dimCol g ms k)) L := by
  rcases Nat.eq_zero_or_pos (g * g) with hg | hg
  · rw [rawScores, hg, List.range_zero, batched, batches_nil]; rfl
  · refine batched_eq_map _ _ (fun _ => rfl) _ (bsPos_some ?_) _
    unfold effDimBatch
    split <;> assumption

/-- after `transpose → reshape → estimator → reshape → transpose`, entry
    `p` (row-major cell) of the returned map is `tr(H K_p H · H L H)/n` with `K_p` the Gram matrix
    of the values of mask cell `p` over the design -/
theorem hsic_cell_alignment (kern : InKernel) (g n bsz : Nat) (hb : 0 < bsz) (ms L : List (List Rat)) :
    hsicImpl kern g n bsz ms L = hsicSpec kern g n ms L := by
  unfold hsicImpl hsicSpec postProcess
  rw [rawScores_eq kern g n bsz hb]
  apply List.map_congr_left
  intro p hp
  obtain ⟨hk, hrt⟩ := cell_roundtrip g p (List.mem_range.mp hp)
  rw [getD_range_map (g * g) _ _ hk, scoreImpl_eq_scoreFn]
  apply scoreFn_congr
  intro a b ha hb'
  rw [gramIn, dimCol, rd_tab n _ a b ha hb', hrt, getD_map_row, getD_map_row]

/-- (stands for C03 as well) `estimator_batch_size` does not change the scores -/
theorem hsic_est_bs_indep (kern : InKernel) (g n b b' : Nat) (hb : 0 < b) (hb' : 0 < b')
    (ms L : List (List Rat)) : hsicImpl kern g n b ms L = hsicImpl kern g n b' ms L :=
  (hsic_cell_alignment kern g n b hb ms L).trans (hsic_cell_alignment kern g n b' hb' ms L).symm

/-- re-indexing the grid cells of every mask by `π` re-indexes the scores by `π` -/
theorem hsic_perm (kern : InKernel) (g n bsz : Nat) (hb : 0 < bsz) (ms L : List (List Rat))
    (π : Nat → Nat) (hπ : ∀ p, p < g * g → π p < g * g) :
    hsicImpl kern g n bsz (ms.map fun row => (List.range (g * g)).map fun q => row.getD (π q) 0) L
      = (List.range (g * g)).map fun p => (hsicImpl kern g n bsz ms L).getD (π p) 0 := by
  rw [hsic_cell_alignment kern g n bsz hb, hsic_cell_alignment kern g n bsz hb]
  unfold hsicSpec
  apply List.map_congr_left
  intro p hp
  have hp' := List.mem_range.mp hp
  rw [getD_range_map (g * g) _ _ (hπ p hp')]
  apply scoreFn_congr
  intro a b _ _
  have e (a : Nat) : ((ms.map fun row => (List.range (g * g)).map fun q => row.getD (π q) 0).getD a []).getD p 0
      = (ms.getD a []).getD (π p) 0 := by
    rw [← getD_map_row, List.map_map, ← getD_map_row]
    refine congrArg (List.getD · a 0) (List.map_congr_left fun row _ => ?_)
    exact getD_range_map (g * g) _ p hp'
  rw [e a, e b]

/-- for an input Gram matrix that is a non-negative combination of outer
    products (over ℚ this is equivalent to positive semi-definiteness, by the LDLᵀ factorisation;
    for the rbf and Sobolev input kernels it is a HYPOTHESIS) and a positive semi-definite output
    Gram matrix `L` (the rbf kernel of the scores: HYPOTHESIS, `exp` is not modelled), the raw
    score is non-negative.  Missing for a full-strength statement: PSD-ness of the rbf / Sobolev
    kernels themselves. -/
theorem hsic_nonneg_partial (n : Nat) (K L : List (List Rat)) (hK : OuterSum n (rd K))
    (hL : PSD n (rd L)) : 0 ≤ scoreImpl n K L := by
  rw [scoreImpl_eq_scoreFn]; exact scoreFn_nonneg n _ _ hK hL

/-- the binary ("Dirac") input kernel on 0/1 values: `1 + ½ − (x−y)² = ½·1·1 + x·y + (1−x)(1−y)` -/
theorem binary_outerSum (n : Nat) (x : Nat → Rat) (hbin : ∀ a, a < n → x a = 0 ∨ x a = 1) :
    OuterSum n fun a b => 1 + InKernel.binary.eval (x a) (x b) := by
  refine ⟨3, fun w => if w = 0 then 1 / 2 else 1,
    fun w a => if w = 0 then 1 else if w = 1 then x a else 1 - x a, fun w => ?_, fun j k hj hk => ?_⟩
  · show 0 ≤ (if w = 0 then (1 : Rat) / 2 else 1)
    split
    exacts [div_nonneg zero_le_one zero_le_two, zero_le_one]
  · have idem (a) (ha : a < n) : x a * x a = x a := by
      rcases hbin a ha with h | h <;> rw [h]
      exacts [mul_zero 0, mul_one 1]
    have e : (x j - x k) * (x j - x k) = x j * x j + x k * x k - 2 * (x j * x k) := by ring
    show 1 + (1 / 2 - (x j - x k) * (x j - x k))
      = 1 / 2 * 1 * 1 + (1 * x j * x k + (1 * (1 - x j) * (1 - x k) + 0))
    rw [e, idem j hj, idem k hk]
    ring

/-- with binary masks (the default `BinaryEstimator`) every raw score is
    non-negative, for every design size, provided the output Gram matrix is PSD -/
theorem hsic_nonneg_binary (g n bsz : Nat) (hb : 0 < bsz) (ms L : List (List Rat))
    (hbin : ∀ row ∈ ms, ∀ v ∈ row, v = 0 ∨ v = 1) (hL : PSD n (rd L)) :
    ∀ s ∈ hsicImpl .binary g n bsz ms L, 0 ≤ s := by
  rw [hsic_cell_alignment _ g n bsz hb]
  intro s hs
  obtain ⟨p, _, rfl⟩ := List.mem_map.mp hs
  refine scoreFn_nonneg n _ _ (binary_outerSum n (fun a => (ms.getD a []).getD p 0) fun a _ => ?_) hL
  exact getD_forall (P := fun v => v = 0 ∨ v = 1) (Or.inl rfl)
    (getD_forall (P := fun row => ∀ v ∈ row, v = 0 ∨ v = 1) (fun _ h => (List.not_mem_nil h).elim) hbin a) p

/-- non-vacuity: the identity is a PSD output Gram matrix, binary masks exist, scores are positive -/
example : PSD 2 (rd [[1, 0], [0, 1]]) := by
  intro v
  show 0 ≤ v 0 * 1 * v 0 + (v 0 * 0 * v 1 + 0) + (v 1 * 0 * v 0 + (v 1 * 1 * v 1 + 0) + 0)
  rw [mul_one, mul_one, mul_zero, mul_zero, zero_mul, zero_mul, zero_add, zero_add, add_zero, add_zero, add_zero]
  exact add_nonneg (mul_self_nonneg _) (mul_self_nonneg _)
example : hsicImpl .binary 1 2 1 [[0], [1]] [[1, 0], [0, 1]] = [1 / 2] := by decide +kernel
example : hsicImpl .binary 2 3 2 [[0, 1, 1, 0], [1, 1, 0, 0], [0, 0, 1, 1]] [[1, 1 / 2, 0], [1 / 2, 1, 1 / 4], [0, 1 / 4, 1]]
    = [2 / 9, 4 / 9, 2 / 9, 4 / 9] := by decide +kernel

end Xp.Hsic

namespace Xp.Gsa

/-- for every batch size the (pre-resize) Sobol / HSIC map of an input
    is the estimator applied to the scores of the inputs perturbed by the explainer's masks,
    in mask order -/
theorem gsa_map_is_estimator {ρ : Type} (est : List (List Rat) → List Rat → ρ) (bs : Option Nat)
    (hbs : ∀ b, bs = some b → 0 < b) (score : List Rat → Rat) (p : Perturb) (g h w c : Nat)
    (masks : List (List Rat)) (x : List Rat) :
    explainOne est bs score p g h w c masks x = specOne est score p g h w c masks x := by
  unfold explainOne specOne outputs query
  rw [batched_eq_map _ _ (fun _ => rfl) bs hbs]

/-- the map of an input depends on that input and its target only -/
theorem gsa_per_sample {ρ : Type} (est : List (List Rat) → List Rat → ρ) (bs : Option Nat)
    (hbs : ∀ b, bs = some b → 0 < b) (score : List Rat → List Rat → Rat) (p : List Rat → Perturb)
    (g h w c : Nat) (masks : List (List Rat)) (xs ys : List (List Rat)) :
    explain est bs score p g h w c masks xs ys
      = List.zipWith (fun x y => specOne est (fun z => score z y) (p x) g h w c masks x) xs ys := by
  unfold explain
  congr 1
  funext x y
  exact gsa_map_is_estimator est bs hbs _ _ g h w c masks x

/-- (stands for C03 as well) a positive batch size gives the same maps as `batch_size=None`; the model's `none`
    is the one batch holding all masks of `self.batch_size or len(self.masks)` -/
theorem gsa_bs_indep {ρ : Type} (est : List (List Rat) → List Rat → ρ) (b : Nat) (hb : 0 < b)
    (score : List Rat → List Rat → Rat) (p : List Rat → Perturb) (g h w c : Nat)
    (masks : List (List Rat)) (xs ys : List (List Rat)) :
    explain est (some b) score p g h w c masks xs ys = explain est none score p g h w c masks xs ys :=
  bs_indep_of_spec (explain est · score p g h w c masks xs ys) _
    (fun bs hbs => gsa_per_sample est bs hbs score p g h w c masks xs ys) hb

theorem gsa_bs_indep_pos {ρ : Type} (est : List (List Rat) → List Rat → ρ) (b b' : Nat) (hb : 0 < b)
    (hb' : 0 < b') (score : List Rat → List Rat → Rat) (p : List Rat → Perturb) (g h w c : Nat)
    (masks : List (List Rat)) (xs ys : List (List Rat)) :
    explain est (some b) score p g h w c masks xs ys = explain est (some b') score p g h w c masks xs ys := by
  rw [gsa_bs_indep est b hb, gsa_bs_indep est b' hb']

/-- negation witness for the PRE-FIX behaviour of `batch_size=None` (before commit b9bc211): every
    single mask was paired with `g` repeated targets, so each score appeared `g` times in `outputs`
    (`repeatEach g`); already for `g = 2`, `n = 2` the estimator then sees a constant `A` block and
    returns NaN where the correct outputs give `[1/2, 2]`. -/
theorem gsa_prefix_batch_none_witness :
    Sobol.estimate .jansen (repeatEach 2 [0, 1, 5, 5, 1, 1, 0, 3]) 2 2 = [none, none] ∧
    Sobol.estimate .jansen [0, 1, 5, 5, 1, 1, 0, 3] 2 2 = [some (1 / 2), some 2] := by
  constructor <;> decide +kernel

/-- the mask value seen by pixel `(r, col)` is the value of grid cell
    `(⌊(r+½)·g/H⌋, ⌊(col+½)·g/W⌋)` (clamped) — channel independent -/
theorem query_pixel (g h w c : Nat) (x m : List Rat) (k : Nat) (hk : k < x.length)
    (hkc : k / c < h * w) :
    (query .inpainting g h w c x m).getD k 0
      = x.getD k 0 * m.getD (nearestIdx g h (k / c / w) * g + nearestIdx g w (k / c % w)) 0 := by
  unfold query perturb upsample
  rw [getD_range_map _ _ _ hk]
  dsimp only
  rw [getD_range_map _ _ _ hkc]
  ring

example : explainOne (fun _ o => Sobol.estimate .jansen o 2 1) (some 4)
      (fun z => z.getD 0 0 + 2 * z.getD 1 0) .inpainting 1 1 2 1 [[0], [1], [1 / 2], [1 / 4], [1], [1 / 2]] [3, 4]
    = specOne (fun _ o => Sobol.estimate .jansen o 2 1)
      (fun z => z.getD 0 0 + 2 * z.getD 1 0) .inpainting 1 1 2 1 [[0], [1], [1 / 2], [1 / 4], [1], [1 / 2]] [3, 4] := by
  decide +kernel

end Xp.Gsa
