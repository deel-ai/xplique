/-
  C17 — counterfactual / semi-factual searches honour class constraints and are nearest.

  `TopK.filterKnnOne` / `cfImpl` model `FilterKNN.kneighbors` with the counterfactual filters,
  `TopK.kleorOne` models `BaseKLEORSearch.kneighbors` (NUN search, then ranking by distance to the
  NUN, GlobalSim's strict closer-than-NUN mask).  As for C16 every theorem holds for all dataset
  sizes, batch sizes, `k`, label assignments and every sort (tie order unspecified), except the two
  `…_stable` theorems, which are about the model's stable sort (ties: `tf.argsort` keeps the
  earlier column first, so the initial `(-1,-1)` columns win against masked cases).
-/
import XpModel.FilterKnn
import XpProofs.Lemmas.FilterKnn
import XpProofs.Properties.C16

namespace Xp.TopK
variable {γ : Type}

/-- a returned column with a finite distance carries the index of an ADMISSIBLE case and that case's
    true distance -/
theorem filter_sound {sort : List (Entry Idx) → List (Entry Idx)} (hsort : IsSort entryLe sort)
    (k bsz : Nat) (key : γ → Dist) (adm : γ → Bool) (cases : List γ) :
    ∀ e ∈ filterKnnOne sort k bsz key adm cases, e.key ≠ none →
      ∃ bi p c, e.val = some (bi, p) ∧ gather (batches bsz cases) (some (bi, p)) = some c ∧
        adm c = true ∧ e.key = key c := by
  intro e he hne
  rcases knn_pairs_valid hsort k bsz _ cases e he with ⟨_, hk⟩ | ⟨bi, p, c, hv, hg, hk⟩
  · exact absurd hk hne
  · obtain ⟨ha, hm⟩ := maskKey_ne_none (hk ▸ hne)
    exact ⟨bi, p, c, hv, hg, ha, hk.trans hm⟩

/-- an admissible case whose index is not returned is at least as far as every returned column -/
theorem filter_nearest {sort : List (Entry Idx) → List (Entry Idx)} (hsort : IsSort entryLe sort)
    (k bsz : Nat) (key : γ → Dist) (adm : γ → Bool) (cases : List γ) (bi p : Nat) (c : γ)
    (hg : gather (batches bsz cases) (some (bi, p)) = some c) (hadm : adm c = true)
    (hnot : ∀ e ∈ filterKnnOne sort k bsz key adm cases, e.val ≠ some (bi, p)) :
    ∀ r ∈ filterKnnOne sort k bsz key adm cases, dle r.key (key c) = true := by
  intro r hr
  have h := knn_nearest hsort k bsz (fun c => maskKey (adm c) (key c)) cases bi p c hg hnot r hr
  rwa [hadm] at h

/-- the number of slots with a finite distance is `min k (number of admissible cases)`; every other
    slot carries `+inf` (classes with fewer than `k` members, or none) -/
theorem filter_fill {sort : List (Entry Idx) → List (Entry Idx)} (hsort : IsSort entryLe sort)
    (k bsz : Nat) (hb : 0 < bsz) (key : γ → Dist) (adm : γ → Bool) (cases : List γ) :
    List.countP (fun e => e.key.isSome) (filterKnnOne sort k bsz key adm cases)
      = min k (List.countP (fun c => adm c && (key c).isSome) cases) := by
  rw [filterKnnOne, knn_finite_count hsort k bsz hb _ cases]
  exact congrArg (fun f => min k (List.countP f cases)) (funext fun c => maskKey_isSome _ _)

/-- distances of the filtered search = the `k` smallest distances of the admissible cases -/
theorem filter_keys {sort : List (Entry Idx) → List (Entry Idx)} (hsort : IsSort entryLe sort)
    (k bsz : Nat) (hb : 0 < bsz) (key : γ → Dist) (adm : γ → Bool) (cases : List γ) :
    (filterKnnOne sort k bsz key adm cases).map (·.key) = smallestKeys k ((cases.filter adm).map key) := by
  rw [filterKnnOne, knn_keys hsort k bsz hb _ cases, smallestKeys_masked]

/-- for the naive and the label-aware filter, every projection, distance, `k`, batch size and sort:
    the distances returned by the batched implementation model are the reference distances (the `k`
    nearest admissible cases, padded with `+inf`) -/
theorem cf_impl_eq_spec {sort : List (Entry Idx) → List (Entry Idx)} (hsort : IsSort entryLe sort)
    (f : Filter) (P : Proj) (dk : DistKind) (k : Nat) (bs : Option Nat) (hbs : ∀ b, bs = some b → 0 < b)
    (cases queries : List Sample) (refs : List (List Rat)) (hne : cases ≠ []) :
    (cfImpl sort f P dk k bs cases queries refs).map (fun r => r.map (·.key))
      = cfSpec f P dk k cases queries refs := by
  rw [cfImpl, cfSpec, List.map_zipWith]
  exact congrArg (List.zipWith · queries refs) (funext fun q => funext fun r =>
    filter_keys hsort k _ (effBs_pos bs hbs _ (List.length_pos_iff.mpr hne)) _ _ cases)

theorem filter_batching_indep {sort : List (Entry Idx) → List (Entry Idx)} (hsort : IsSort entryLe sort)
    (f : Filter) (P : Proj) (dk : DistKind) (k b : Nat) (hb : 0 < b)
    (cases queries : List Sample) (refs : List (List Rat)) (hne : cases ≠ []) :
    (cfImpl sort f P dk k (some b) cases queries refs).map (fun r => r.map (·.key))
      = (cfImpl sort f P dk k none cases queries refs).map (fun r => r.map (·.key)) :=
  bs_indep_of_spec
    (fun bs => (cfImpl sort f P dk k bs cases queries refs).map (fun r => r.map (·.key))) _
    (fun bs hbs => cf_impl_eq_spec hsort f P dk k bs hbs cases queries refs hne) hb

/-- the filters are what the property says: naive = another class, label-aware = the requested class -/
theorem filter_classes (ref c : Nat) :
    (admissible .naive ref c = true ↔ ref ≠ c) ∧ (admissible .labelAware ref c = true ↔ ref = c) ∧
    (admissible .kleorSame ref c = true ↔ ref = c) ∧ (admissible .kleorNun ref c = true ↔ ref ≠ c) :=
  ⟨bne_iff_ne, beq_iff_eq, beq_iff_eq, bne_iff_ne⟩

/-- the NUN column found by `_get_nuns` -/
def nunOf (sortI : List (Entry Idx) → List (Entry Idx)) (bsz : Nat) (dq : γ → Dist) (same : γ → Bool)
    (cases : List γ) : Entry Idx :=
  (filterKnnOne sortI 1 bsz dq (fun c => !same c) cases).headD ⟨none, none⟩

/-- the gathered NUN (`none`: the `inf` fill) -/
def nunCaseOf (sortI : List (Entry Idx) → List (Entry Idx)) (bsz : Nat) (dq : γ → Dist)
    (same : γ → Bool) (cases : List γ) : Option γ :=
  gather (batches bsz cases) (nunOf sortI bsz dq same cases).val

/-- the `dn` of `kleorOne`: distance to the gathered NUN, `+inf` when there is none -/
def dnOf (dist : γ → γ → Dist) (nunCase : Option γ) : γ → Dist := fun c =>
  match nunCase with
  | none => none
  | some v => dist v c

/-- the semi-factual candidates: same class as the query; GlobalSim: strictly closer than the NUN -/
def cand (glob : Bool) (dq : γ → Dist) (same : γ → Bool) (nunKey : Dist) (c : γ) : Bool :=
  same c && (!glob || dlt (dq c) nunKey)

private theorem kleorOne_nun (glob : Bool) (sortI : List (Entry Idx) → List (Entry Idx))
    (sortK : List KEntry → List KEntry) (k bsz : Nat) (dist : γ → γ → Dist) (dq : γ → Dist)
    (same : γ → Bool) (cases : List γ) :
    (kleorOne glob sortI sortK k bsz dist dq same cases).nun = nunOf sortI bsz dq same cases := rfl

private theorem nun_singleton {sortI : List (Entry Idx) → List (Entry Idx)} (hsort : IsSort entryLe sortI)
    (bsz : Nat) (dq : γ → Dist) (same : γ → Bool) (cases : List γ) :
    filterKnnOne sortI 1 bsz dq (fun c => !same c) cases = [nunOf sortI bsz dq same cases] := by
  obtain ⟨a, ha⟩ := List.length_eq_one_iff.mp
    (knn_length hsort 1 bsz (fun c => maskKey (!same c) (dq c)) cases)
  rw [nunOf, filterKnnOne, ha]; rfl

/-- the NUN's distance is the smallest distance of a case of another class (`+inf` when the dataset
    has no other class); no unlike case is closer; a finite NUN distance comes with the index of an
    unlike case at exactly that distance -/
theorem kleor_nun_spec {sortI : List (Entry Idx) → List (Entry Idx)} (hsort : IsSort entryLe sortI)
    (bsz : Nat) (hb : 0 < bsz) (dq : γ → Dist) (same : γ → Bool) (cases : List γ) :
    (nunOf sortI bsz dq same cases).key = nunSpecKey dq same cases ∧
    (∀ c ∈ cases, same c = false → dle (nunOf sortI bsz dq same cases).key (dq c) = true) ∧
    ((nunOf sortI bsz dq same cases).key ≠ none → ∃ bi p c,
        (nunOf sortI bsz dq same cases).val = some (bi, p) ∧
        gather (batches bsz cases) (some (bi, p)) = some c ∧ same c = false ∧
        (nunOf sortI bsz dq same cases).key = dq c) := by
  have hs := nun_singleton hsort bsz dq same cases
  have hmem : nunOf sortI bsz dq same cases ∈ filterKnnOne sortI 1 bsz dq (fun c => !same c) cases :=
    hs ▸ List.mem_singleton.mpr rfl
  refine ⟨?_, ?_, ?_⟩
  · have hk := filter_keys hsort 1 bsz hb dq (fun c => !same c) cases
    rw [hs] at hk
    rw [nunSpecKey, ← hk]; rfl
  · intro c hc hsame
    obtain ⟨bi, p, hg⟩ := (mem_iff_exists_gather bsz hb cases c).mp hc
    -- the column of `c` is the NUN itself or was left out of the one-column table
    have h : dle (nunOf sortI bsz dq same cases).key (maskKey (!same c) (dq c)) = true := by
      by_cases hin : mkKnn (fun c => maskKey (!same c) (dq c)) c bi p
          ∈ filterKnnOne sortI 1 bsz dq (fun c => !same c) cases
      · rw [hs, List.mem_singleton] at hin
        rw [← hin]; exact dle_totalPre.refl _
      · exact search_nearest hsort 1 none (mkKnn _) bsz cases hg hin _ hmem
    rwa [hsame] at h
  · intro hne
    obtain ⟨bi, p, c, hv, hg, ha, hk⟩ := filter_sound hsort 1 bsz dq (fun c => !same c) cases _ hmem hne
    exact ⟨bi, p, c, hv, hg, (Bool.not_eq_true' _).mp ha, hk⟩

private theorem kleorEntry_eq (glob : Bool) (dq dn : γ → Dist) (same : γ → Bool) (nunKey : Dist)
    (c : γ) (bi p : Nat) :
    kleorEntry glob dq dn same nunKey c bi p
      = ⟨maskKey (cand glob dq same nunKey c) (dn c),
          (maskKey (cand glob dq same nunKey c) (dq c), some (bi, p))⟩ := by
  unfold kleorEntry cand
  cases same c
  · simp only [maskKey_false, maskKey_none, Bool.false_and]
  · rfl

def kleorSeen (glob : Bool) (k : Nat) (dq dn : γ → Dist) (same : γ → Bool) (nunKey : Dist) (bsz : Nat)
    (cases : List γ) : List KEntry :=
  kfills k ++ allE (kleorEntry glob dq dn same nunKey) bsz cases

/-- the KLEOR loop (for ANY NUN distance / NUN vector handed to it) -/
def kleorRun (glob : Bool) (sortK : List KEntry → List KEntry) (k bsz : Nat) (dq dn : γ → Dist)
    (same : γ → Bool) (nunKey : Dist) (cases : List γ) : List KEntry :=
  run sortK k (kfills k) (allBatchEntries (kleorEntry glob dq dn same nunKey) bsz cases)

/-- the definition of `kleorOne` read with the names `nunOf`, `nunCaseOf`, `dnOf`, `kleorRun` -/
private theorem kleorOne_res (glob : Bool) (sortI : List (Entry Idx) → List (Entry Idx))
    (sortK : List KEntry → List KEntry) (k bsz : Nat) (dist : γ → γ → Dist) (dq : γ → Dist)
    (same : γ → Bool) (cases : List γ) :
    (kleorOne glob sortI sortK k bsz dist dq same cases).res =
      kleorRun glob sortK k bsz dq (dnOf dist (nunCaseOf sortI bsz dq same cases)) same
        (nunOf sortI bsz dq same cases).key cases := rfl

-- `kleorRun glob sortK k bsz dq dn same nunKey cases` unfolds to
-- `search sortK k (none, none) (kleorEntry glob dq dn same nunKey) bsz cases`.

theorem kleor_topk {sortK : List KEntry → List KEntry} (hsort : IsSort entryLe sortK) (glob : Bool)
    (k bsz : Nat) (dq dn : γ → Dist) (same : γ → Bool) (nunKey : Dist) (cases : List γ) :
    IsTopK entryLe k (kleorSeen glob k dq dn same nunKey bsz cases)
      (kleorRun glob sortK k bsz dq dn same nunKey cases) :=
  search_isTopK hsort k (none, none) (kleorEntry glob dq dn same nunKey) bsz cases

/-- a returned column with a finite distance-to-NUN is a case of the query's class (GlobalSim:
    STRICTLY closer to the query than the NUN), its key is its distance to the NUN and the distance
    reported along with it is its true distance to the query -/
theorem kleor_sound {sortK : List KEntry → List KEntry} (hsort : IsSort entryLe sortK) (glob : Bool)
    (k bsz : Nat) (dq dn : γ → Dist) (same : γ → Bool) (nunKey : Dist) (cases : List γ) :
    ∀ e ∈ kleorRun glob sortK k bsz dq dn same nunKey cases, e.key ≠ none →
      ∃ bi p c, e.val.2 = some (bi, p) ∧ gather (batches bsz cases) (some (bi, p)) = some c ∧
        same c = true ∧ (glob = true → dlt (dq c) nunKey = true) ∧ e.key = dn c ∧ e.val.1 = dq c := by
  intro e he hne
  rcases search_mem hsort k (none, none) (kleorEntry glob dq dn same nunKey) bsz cases he with
    rfl | ⟨bi, p, c, hg, rfl⟩
  · exact absurd rfl hne
  · rw [kleorEntry_eq] at hne ⊢
    obtain ⟨hc, hm⟩ := maskKey_ne_none hne
    have hc' := Bool.and_eq_true_iff.mp hc
    refine ⟨bi, p, c, rfl, hg, hc'.1, fun hgl => ?_, hm, by rw [hc]; rfl⟩
    rw [hgl] at hc'
    exact hc'.2

/-- GlobalSim is strict: a case at exactly the NUN's distance from the query is never returned -/
theorem kleor_globalsim_strict {sortK : List KEntry → List KEntry} (hsort : IsSort entryLe sortK)
    (k bsz : Nat) (dq dn : γ → Dist) (same : γ → Bool) (nunKey : Dist) (cases : List γ) :
    ∀ e ∈ kleorRun true sortK k bsz dq dn same nunKey cases, e.key ≠ none → e.val.1 ≠ nunKey := by
  intro e he hne heq
  obtain ⟨_, _, c, _, _, _, hlt, _, hq⟩ := kleor_sound hsort true k bsz dq dn same nunKey cases e he hne
  have := hlt rfl
  rw [← hq, heq, dlt, dle_totalPre.refl] at this
  cases this

/-- a candidate whose index is not returned is at least as far from the NUN as every returned column -/
theorem kleor_nearest {sortK : List KEntry → List KEntry} (hsort : IsSort entryLe sortK) (glob : Bool)
    (k bsz : Nat) (dq dn : γ → Dist) (same : γ → Bool) (nunKey : Dist) (cases : List γ)
    (bi p : Nat) (c : γ) (hg : gather (batches bsz cases) (some (bi, p)) = some c)
    (hc : cand glob dq same nunKey c = true)
    (hnot : ∀ e ∈ kleorRun glob sortK k bsz dq dn same nunKey cases, e.val.2 ≠ some (bi, p)) :
    ∀ r ∈ kleorRun glob sortK k bsz dq dn same nunKey cases, dle r.key (dn c) = true := by
  have h := search_nearest hsort k (none, none) (kleorEntry glob dq dn same nunKey) bsz cases hg
    (fun hin => hnot _ hin (by rw [kleorEntry_eq]))
  rwa [kleorEntry_eq, hc] at h

/-- the returned distances to the NUN are the `k` smallest among the candidates, sorted, padded with
    `+inf`; independent of the batch size -/
theorem kleor_keys {sortK : List KEntry → List KEntry} (hsort : IsSort entryLe sortK) (glob : Bool)
    (k bsz : Nat) (hb : 0 < bsz) (dq dn : γ → Dist) (same : γ → Bool) (nunKey : Dist) (cases : List γ) :
    (kleorRun glob sortK k bsz dq dn same nunKey cases).map (·.key)
      = smallestKeys k ((cases.filter (cand glob dq same nunKey)).map dn) := by
  rw [← smallestKeys_masked]
  exact search_keys hsort k (none, none) (kleorEntry glob dq dn same nunKey) bsz cases _
    (fun c bi p => by rw [kleorEntry_eq]) hb

/-- when a NUN exists and distances are finite, a column whose key is `+inf` also reports an infinite
    distance to the query -/
theorem kleor_unfilled {sortK : List KEntry → List KEntry} (hsort : IsSort entryLe sortK) (glob : Bool)
    (k bsz : Nat) (dq dn : γ → Dist) (hdn : ∀ c, (dn c).isSome = true) (same : γ → Bool) (nunKey : Dist)
    (cases : List γ) :
    ∀ e ∈ kleorRun glob sortK k bsz dq dn same nunKey cases, e.key = none → e.val.1 = none := by
  intro e he hk
  rcases search_mem hsort k (none, none) (kleorEntry glob dq dn same nunKey) bsz cases he with
    rfl | ⟨bi, p, c, _, rfl⟩
  · rfl
  · rw [kleorEntry_eq] at hk ⊢
    cases hc : cand glob dq same nunKey c
    · rfl
    · rw [hc] at hk
      have := hdn c
      rw [show dn c = none from hk] at this
      cases this

/-- stable sort: when no NUN was found (the gathered NUN is the `inf` fill) every slot stays the
    initial `(+inf, +inf, (-1,-1))` column -/
theorem kleor_no_nun_stable (glob : Bool) (k bsz : Nat) (dq : γ → Dist) (same : γ → Bool)
    (nunKey : Dist) (cases : List γ) :
    kleorRun glob sortE k bsz dq (fun _ => none) same nunKey cases = kfills k := by
  refine search_sortE_all_top k (none, none) _ bsz cases fun bi p c _ => ?_
  rw [kleorEntry_eq]
  exact maskKey_none _

/-- stable sort: when no unlike case is at a finite distance the NUN index is the `(-1,-1)` fill
    (so the gathered NUN is the `inf` fill) -/
theorem kleor_nun_stable (bsz : Nat) (hb : 0 < bsz) (dq : γ → Dist) (same : γ → Bool) (cases : List γ)
    (h : (nunOf sortE bsz dq same cases).key = none) : (nunOf sortE bsz dq same cases).val = none := by
  have hspec := kleor_nun_spec (sortE_isSort) bsz hb dq same cases
  have hall : ∀ c ∈ cases, maskKey (!same c) (dq c) = none := by
    intro c hc
    cases hs : same c
    · exact dle_top_left (h ▸ hspec.2.1 c hc hs)
    · rfl
  have hrun : filterKnnOne sortE 1 bsz dq (fun c => !same c) cases = fills 1 :=
    search_sortE_all_top 1 none (mkKnn _) bsz cases fun bi p c hg =>
      hall c ((mem_iff_exists_gather bsz hb cases c).mpr ⟨bi, p, hg⟩)
  rw [nunOf, hrun]; rfl

/-- for every sort of the main loop, batch size, `k` and label assignment: the distances-to-NUN
    returned by `kleorOne` are the reference (`kleorSpecKeys` relative to the NUN that the NUN search
    gathered), provided the NUN search returns the `(-1,-1)` index when it finds nothing (`hnun`;
    true for the stable sort: `kleor_nun_stable`). -/
theorem kleor_impl_eq_spec {sortI : List (Entry Idx) → List (Entry Idx)} {sortK : List KEntry → List KEntry}
    (hsortI : IsSort entryLe sortI) (hsortK : IsSort entryLe sortK) (glob : Bool) (k bsz : Nat)
    (hb : 0 < bsz) (dist : γ → γ → Dist) (dq : γ → Dist) (same : γ → Bool) (cases : List γ)
    (hnun : (nunOf sortI bsz dq same cases).key = none → (nunOf sortI bsz dq same cases).val = none) :
    (kleorOne glob sortI sortK k bsz dist dq same cases).res.map (·.key)
      = kleorSpecKeys glob k dist dq same cases (nunCaseOf sortI bsz dq same cases) := by
  rw [kleorOne_res, kleor_keys hsortK glob k bsz hb]
  unfold kleorSpecKeys
  cases hv : nunCaseOf sortI bsz dq same cases with
  | none => exact smallestKeys_none k _
  | some v =>
    -- the NUN index is real, hence (hnun) its distance is finite, hence it is the distance of `v`
    have hval : (nunOf sortI bsz dq same cases).val ≠ none := fun hn => by
      rw [nunCaseOf, hn] at hv; cases hv
    obtain ⟨bi, p, c, hvl, hg, _, hkc⟩ :=
      (kleor_nun_spec hsortI bsz hb dq same cases).2.2 fun hn => hval (hnun hn)
    rw [nunCaseOf, hvl, hg] at hv
    rw [hkc, Option.some.inj hv]
    rfl

theorem kleor_per_sample (glob : Bool) (sortI : List (Entry Idx) → List (Entry Idx))
    (sortK : List KEntry → List KEntry) (P : Proj) (dk : DistKind) (k : Nat) (bs : Option Nat)
    (cases queries : List Sample) :
    kleorImpl glob sortI sortK P dk k bs cases queries
      = queries.flatMap (fun q => kleorImpl glob sortI sortK P dk k bs cases [q]) :=
  List.map_eq_flatMap

-- 1-D cases with classes; query at 0 of class 0
private def exCases : List (Rat × Nat) := [(1, 0), (2, 1), (-1, 0), (3, 0), (-2, 1), (1, 1)]
private def exDq : Rat × Nat → Dist := fun c => some (ratAbs c.1)
private def exDist : Rat × Nat → Rat × Nat → Dist := fun a b => some (ratAbs (a.1 - b.1))

-- naive counterfactuals of class 0, k = 4, batches of 4: three unlike cases, one unfilled slot
example : (filterKnnOne sortE 4 4 exDq (fun c => c.2 != 0) exCases).map (fun e => (e.key, e.val))
    = [(some 1, some (1, 1)), (some 2, some (0, 1)), (some 2, some (1, 0)), (none, none)] := by
  decide +kernel

-- KLEOR: NUN = (1, class 1) at distance 1; SimMiss ranks the class-0 cases by distance to it;
-- GlobalSim keeps only cases strictly closer than 1 to the query: none (the cases at exactly 1 are excluded)
example : (kleorOne false sortE sortE 2 4 exDist exDq (fun c => c.2 == 0) exCases).nun.val = some (1, 1) := by
  decide +kernel
example : ((kleorOne false sortE sortE 2 4 exDist exDq (fun c => c.2 == 0) exCases).res.map
    fun e => (e.key, e.val.1)) = [(some 0, some 1), (some 2, some 1)] := by
  decide +kernel
example : ((kleorOne true sortE sortE 2 4 exDist exDq (fun c => c.2 == 0) exCases).res.map
    fun e => (e.key, e.val.1)) = [(none, none), (none, none)] := by
  decide +kernel
-- the hypothesis of kleor_impl_eq_spec holds for the stable sort
example (bsz : Nat) (hb : 0 < bsz) (dq : Rat × Nat → Dist) (same : Rat × Nat → Bool) (cs : List (Rat × Nat)) :
    (nunOf sortE bsz dq same cs).key = none → (nunOf sortE bsz dq same cs).val = none :=
  kleor_nun_stable bsz hb dq same cs

end Xp.TopK
