/-
  C11 — wrapping a model changes no result.

  `Wrap.cfOrder` / `Wrap.clOrder` are the axis permutations that `numpy.moveaxis` builds from the axis
  lists GENERATED from xplique/wrappers/pytorch.py; `Wrap.call` is the model of `TorchWrapper.call`;
  `Wrap.inference` the model of the model-type dispatch + `predictions_one_hot_callable`.
  The theorems about index functions hold for every tensor size (index functions carry no bounds).
-/
import XpModel.Wrapper
import XpProofs.Lemmas.Wrapper
import XpProofs.Lemmas.Batching
import Mathlib.Algebra.BigOperators.Group.Finset.Sigma

namespace Xp.Wrap

/-- the permutations that `numpy.moveaxis` derives from the axis lists written in the source -/
theorem moveaxis_orders : cfOrder = [0, 3, 1, 2] ∧ clOrder = [0, 2, 3, 1] := by
  decide +kernel

theorem moveaxis_shape (N H W C : Nat) :
    transposeShape cfOrder [N, H, W, C] = [N, C, H, W] ∧
    transposeShape clOrder [N, C, H, W] = [N, H, W, C] := by
  rw [moveaxis_orders.1, moveaxis_orders.2]
  exact ⟨rfl, rfl⟩

private theorem srcIndex_moveaxis (a b c d : Nat) :
    srcIndex cfOrder [a, b, c, d] = [a, c, d, b] ∧ srcIndex clOrder [a, b, c, d] = [a, d, b, c] := by
  rw [moveaxis_orders.1, moveaxis_orders.2]
  exact ⟨rfl, rfl⟩

/-- cell `(n, c, h, w)` of the tensor handed to the torch module is cell `(n, h, w, c)` of the channel-last
    input, and cell `(n, h, w, c)` of the gradient handed back is cell `(n, c, h, w)` of torch's gradient (H
    and W are not exchanged). -/
theorem moveaxis_index (t u : MIdx → Rat) (n c h w : Nat) :
    toChannelFirstF t [n, c, h, w] = t [n, h, w, c] ∧
    toChannelLastF u [n, h, w, c] = u [n, c, h, w] :=
  ⟨congrArg t (srcIndex_moveaxis n c h w).1, congrArg u (srcIndex_moveaxis n h w c).2⟩

theorem moveaxis_inverse (t u : MIdx → Rat) (a b c d : Nat) :
    toChannelLastF (toChannelFirstF t) [a, b, c, d] = t [a, b, c, d] ∧
    toChannelFirstF (toChannelLastF u) [a, b, c, d] = u [a, b, c, d] := by
  constructor
  · show t (srcIndex cfOrder (srcIndex clOrder [a, b, c, d])) = _
    rw [(srcIndex_moveaxis a b c d).2, (srcIndex_moveaxis a d b c).1]
  · show u (srcIndex clOrder (srcIndex cfOrder [a, b, c, d])) = _
    rw [(srcIndex_moveaxis a b c d).1, (srcIndex_moveaxis a c d b).2]

/-- on row-major buffers `numpy.transpose` puts at the offset of `idx` (in the permuted shape) the cell of the
    source buffer at the offset of `srcIndex order idx` -/
theorem transposeFlat_get (order shape : List Nat) (data : List Rat) (idx : MIdx)
    (h : Valid (transposeShape order shape) idx) :
    (transposeFlat order shape data)[ravel (transposeShape order shape) idx]?
      = some (data.getD (ravel shape (srcIndex order idx)) 0) := by
  unfold transposeFlat
  rw [List.getElem?_map, (allIdx_ravel _ idx h).1]
  rfl

/-- `moveaxis_index` on the row-major buffers actually exchanged with torch -/
theorem moveaxis_flat (N H W C : Nat) (data : List Rat) (n c h w : Nat)
    (hn : n < N) (hc : c < C) (hh : h < H) (hw : w < W) :
    (transposeFlat cfOrder [N, H, W, C] data)[ravel [N, C, H, W] [n, c, h, w]]?
        = some (data.getD (ravel [N, H, W, C] [n, h, w, c]) 0) ∧
    (transposeFlat clOrder [N, C, H, W] data)[ravel [N, H, W, C] [n, h, w, c]]?
        = some (data.getD (ravel [N, C, H, W] [n, c, h, w]) 0) := by
  constructor
  · rw [← (moveaxis_shape N H W C).1, ← (srcIndex_moveaxis n c h w).1]
    exact transposeFlat_get _ _ _ _ ((moveaxis_shape N H W C).1 ▸ ⟨hn, hc, hh, hw, trivial⟩)
  · rw [← (moveaxis_shape N H W C).2, ← (srcIndex_moveaxis n h w c).2]
    exact transposeFlat_get _ _ _ _ ((moveaxis_shape N H W C).2 ▸ ⟨hn, hh, hw, hc, trivial⟩)

open Finset in
/-- the layout permutation is orthogonal: its adjoint is its inverse. For a score that is linear in the
    module's channel-first input with (torch) gradient `k`, `s(x) = ⟨x, k⟩_{NCHW}`, the score seen by the
    explainer as a function of the channel-last input `a` is `⟨a, toChannelLast k⟩_{NHWC}`: the tensor the
    wrapper returns (`moveaxis(k, [1,2,3], [3,1,2])`) is the exact gradient w.r.t. the channel-last input, for
    every N, H, W, C (H ≠ W included). -/
theorem wrapper_grad (N H W C : Nat) (a k : MIdx → Rat) :
    inner4 N C H W (toChannelFirstF a) k = inner4 N H W C a (toChannelLastF k) := by
  unfold inner4
  apply sum_congr rfl; intro n _
  have e : ∀ c h w, toChannelFirstF a [n, c, h, w] * k [n, c, h, w]
      = a [n, h, w, c] * toChannelLastF k [n, h, w, c] := by
    intro c h w
    rw [(moveaxis_index a k n c h w).1, (moveaxis_index a k n c h w).2]
  simp only [e]
  rw [sum_comm]
  apply sum_congr rfl; intro h _
  rw [sum_comm]

/-- the gradient tensor is determined by the linear functional it represents (so `wrapper_grad`
    identifies THE gradient): two tensors with the same inner product against every `a` agree on the box -/
theorem inner4_unique (d0 d1 d2 d3 : Nat) (g g' : MIdx → Rat)
    (h : ∀ a, inner4 d0 d1 d2 d3 a g = inner4 d0 d1 d2 d3 a g')
    (i j k l : Nat) (hi : i < d0) (hj : j < d1) (hk : k < d2) (hl : l < d3) :
    g [i, j, k, l] = g' [i, j, k, l] := by
  classical
  -- pairing with the indicator of a cell reads the cell off
  have key : ∀ t : MIdx → Rat,
      inner4 d0 d1 d2 d3 (fun idx => if idx = [i, j, k, l] then 1 else 0) t = t [i, j, k, l] := by
    intro t
    unfold inner4
    rw [Finset.sum_eq_single_of_mem i (Finset.mem_range.mpr hi), Finset.sum_eq_single_of_mem j (Finset.mem_range.mpr hj),
      Finset.sum_eq_single_of_mem k (Finset.mem_range.mpr hk), Finset.sum_eq_single_of_mem l (Finset.mem_range.mpr hl)]
    · simp
    · intro b _ hb; simp [hb]
    · intro b _ hb; simp [hb]
    · intro b _ hb; simp [hb]
    · intro b _ hb; simp [hb]
  have := h (fun idx => if idx = [i, j, k, l] then 1 else 0)
  rwa [key g, key g'] at this

/-- the wrapper converts to channel-first exactly when requested (`is_channel_first=True`) or, without
    request, when the module tree contains a `Conv2d`. -/
theorem conv_detection (flag : Option Bool) (kinds : List Bool) :
    channelFirst flag kinds = true ↔
      (flag = some true ∨ (flag = none ∧ ∃ m ∈ kinds, m = true)) := by
  cases flag with
  | none => simp [channelFirst, hasConvLayers_iff]
  | some b => cases b <;> simp [channelFirst]

/-- without conversion the wrapper hands the input through and the gradient back unchanged; with
    conversion both go through the two permutations of `moveaxis_index` -/
theorem call_layout (m : Module) (x : List Rat) (shape : List Nat) (up : List (List Rat)) :
    (call false m x shape).1 = m.fwd x shape ∧ (call false m x shape).2 up = m.vjp x shape up ∧
    (call true m x shape).1 = m.fwd (transposeFlat cfOrder shape x) (transposeShape cfOrder shape) ∧
    (call true m x shape).2 up
      = transposeFlat clOrder (transposeShape cfOrder shape)
          (m.vjp (transposeFlat cfOrder shape x) (transposeShape cfOrder shape) up) :=
  ⟨rfl, rfl, rfl, rfl⟩

/-- for each of the three call paths of `predictions_one_hot_callable` (tflite `invoke`, `predict_proba`,
    `__call__`; they differ only in how `pred` is obtained) the score of sample `n` is
    `Σ_c pred[n][c]·targets[n][c]`; a 1-D prediction `(N,)` of a single-output model gives
    `pred[n]·targets[n][0]`, for `N ≠ 1` (expand_dims) and `N = 1` (left as a row) alike, i.e. exactly what
    the same values returned as an `(N, 1)` array give. -/
theorem callable_dispatch (n : Nat) :
    (∀ rows ys, Aligned rows ys → oneHotCallable n (.mat rows) ys = List.zipWith dot rows ys) ∧
    (∀ v ys, v.length = n → ys.length = n → (∀ y ∈ ys, y.length = 1) →
        oneHotCallable n (.vec v) ys = List.zipWith (fun p y => p * y.getD 0 0) v ys ∧
        oneHotCallable n (.vec v) ys = oneHotCallable n (.mat (v.map fun p => [p])) ys) := by
  constructor
  · intro rows ys h
    exact (scoresOf_eq_zipWith rows ys h.1).trans
      (zipWith_congr_zip fun p hp => rowScore_eq_dot p.1 p.2 (h.2 p hp))
  · intro v ys hv hys hy
    have hmat := oneHotCallable_vec n v hv ys
    refine ⟨?_, hmat⟩
    rw [hmat, scoresOf_eq_zipWith _ _ ((List.length_map _).trans (hv.trans hys.symm)), List.zipWith_map_left]
    exact zipWith_congr_zip fun p hp => rowScore_singleton p.1 p.2 (hy p.2 (List.of_mem_zip hp).2)

/-- if the function returns the same `(N, C)` predictions whichever way it is handed over (Keras model,
    tf.Module, Keras layer, tflite interpreter, `predict_proba` object, plain callable), the inference
    function of black-box explainers and metrics returns the same scores. -/
theorem blackbox_same (w w' : Wrapping) (n : Nat) (rows ys : List (List Rat)) :
    inference w n (.mat rows) ys = inference w' n (.mat rows) ys :=
  (inference_mat w n rows ys).trans (inference_mat w' n rows ys).symm

/-- the model-type dispatch of `get_inference_function` -/
theorem dispatch_spec (w : Wrapping) :
    usesTfOperator w = true ↔ (w = .keras ∨ w = .tfModule ∨ w = .kerasLayer) := by
  cases w <;> simp [usesTfOperator]

/-- 2-D predictions: for a per-sample model the batched inference function gives, for every batch size,
    `Σ_c f(x)_c·y_c` per sample, whatever the wrapping. -/
theorem inference_bs_indep (w : Wrapping) (f1 : List Rat → List Rat) (bs : Option Nat)
    (hbs : ∀ b, bs = some b → 0 < b) (xys : List (List Rat × List Rat)) :
    batchInference w (fun xs => .mat (xs.map f1)) bs xys = xys.map fun xy => rowScore (f1 xy.1) xy.2 := by
  refine batched_eq_map _ _ (fun chunk => ?_) bs hbs xys
  rw [inference_mat, scoresOf_eq_zipWith _ _ (by rw [List.length_map, List.length_map, List.length_map]),
    List.map_map]
  exact zipWith_map_map_self rowScore _ _ chunk

/-- 1-D predictions: a single-output model returning `(N,)` through the callable / `predict_proba` path gives
    `f(x)·y₀` per sample for every batch size, including a remainder batch of exactly one sample (where the
    `N ≠ 1` test skips the expand_dims). -/
theorem callable_1d_bs_indep (w : Wrapping) (hw : usesTfOperator w = false) (f1 : List Rat → Rat)
    (bs : Option Nat) (hbs : ∀ b, bs = some b → 0 < b) (xys : List (List Rat × List Rat))
    (hy : ∀ xy ∈ xys, xy.2.length = 1) :
    batchInference w (fun xs => .vec (xs.map f1)) bs xys = xys.map fun xy => f1 xy.1 * xy.2.getD 0 0 := by
  -- on this path every batch of 1-D predictions is the `(N, 1)` array of the same values (`normalise_vec`),
  -- so this is the 2-D case for `x ↦ [f1 x]`
  have hvec : ∀ chunk : List (List Rat × List Rat),
      inference w chunk.length (.vec ((chunk.map (·.1)).map f1)) (chunk.map (·.2))
        = inference w chunk.length (.mat ((chunk.map (·.1)).map fun x => [f1 x])) (chunk.map (·.2)) := by
    intro chunk
    unfold inference
    rw [hw, if_neg Bool.false_ne_true, oneHotCallable_vec _ _ (by rw [List.length_map, List.length_map]), List.map_map]
    rfl
  unfold batchInference
  rw [funext hvec]
  exact (inference_bs_indep w (fun x => [f1 x]) bs hbs xys).trans
    (List.map_congr_left fun xy hxy => rowScore_singleton _ _ (hy xy hxy))

-- non-vacuity
example : moveaxisOrder 4 [3, 1, 2] [1, 2, 3] = [0, 3, 1, 2] := by decide +kernel
example : transposeFlat cfOrder [1, 2, 3, 2] [0, 1, 2, 3, 4, 5, 6, 7, 8, 9, 10, 11]
    = [0, 2, 4, 6, 8, 10, 1, 3, 5, 7, 9, 11] := by decide +kernel
example : transposeFlat clOrder [1, 2, 2, 3] (transposeFlat cfOrder [1, 2, 3, 2] [0, 1, 2, 3, 4, 5, 6, 7, 8, 9, 10, 11])
    = [0, 1, 2, 3, 4, 5, 6, 7, 8, 9, 10, 11] := by decide +kernel
example : oneHotCallable 3 (.vec [1, 2, 3]) [[2], [2], [-1]] = [2, 4, -3]
    ∧ oneHotCallable 1 (.vec [5]) [[2]] = [10]
    ∧ oneHotCallable 2 (.mat [[1, 2], [3, 4]]) [[1, 0], [0, 1]] = [1, 4] := by decide +kernel
example : channelFirst none [false, true, false] = true ∧ channelFirst (some false) [true] = false := by
  decide

end Xp.Wrap
