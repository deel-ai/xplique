/-
  C10 — DeconvNet / GuidedBackprop / Grad-CAM(++) implement their published rules.

  `Net.overrideRelu`, `Net.forward`, `Net.backward`, `Net.explain` are the executable model of
  model_override.py + DeconvNet / GuidedBackprop; `Net.specBackward` is the published procedure stated
  on the ORIGINAL network.  `GradCam.explain` is the model of GradCAM.explain (before the resize),
  `GradCam.specCam` the documented formula.
-/
import XpModel.ReluNet
import XpModel.GradCam
import XpProofs.Lemmas.Batching
import XpProofs.Lemmas.ReluNet
import XpProofs.Lemmas.GradCam
import XpProofs.Lemmas.Vec

namespace Xp.Net

/-- standard ReLU: `max_value = None`, `threshold = 0`, `negative_slope = 0` -/
theorem kerasRelu_standard (z : Rat) : kerasRelu none 0 0 z = ratMax z 0 := by
  rw [kerasRelu_slope_zero, ratMax_eq]
  show (if 0 < z then z else 0) = max z 0
  split
  next h => exact (max_eq_left h.le).symm
  next h => exact (max_eq_right (not_lt.mp h)).symm

/-- **Forward unchanged** — for every ReLU variant (any `max_value`, `threshold`, `negative_slope`), fused
    or layer, the overridden clone computes the same outputs as the original, for every policy. -/
theorem override_forward_id (r : Rule) (net : List Layer) (x : Vec) :
    forward (overrideRelu r net) x = forward net x := by
  unfold forward overrideRelu
  rw [List.foldl_map]
  simp only [layerFwd_override]

namespace Witness
/-- the override as it was BEFORE repair commit af667d4: a ReLU layer's `negative_slope` was not handed to
    the policy (`relu_policy(max_value, threshold)`) -/
def overrideLayerPreFix (r : Rule) : Layer → Layer
  | .reluLayer maxv thr _ => .policyLayer r maxv thr 0
  | l => overrideLayer r l

/-- defect witness (fixed by af667d4): with the slope dropped the forward pass of
    `Model(inp, ReLU(negative_slope=0.5)(inp))` changes on `x = [-2, 1]`: `[-1, 1]` became `[0, 1]` -/
theorem prefix_override_changes_forward :
    forward ([Layer.reluLayer none 0 (1/2)].map (overrideLayerPreFix .deconv)) [-2, 1] = [0, 1] ∧
    forward [Layer.reluLayer none 0 (1/2)] [-2, 1] = [-1, 1] ∧
    forward (overrideRelu .deconv [Layer.reluLayer none 0 (1/2)]) [-2, 1] = [-1, 1] := by
  decide +kernel
end Witness

/-- **Only ReLUs are touched** — the override keeps the number and order of layers; a layer that is
    neither a fused relu nor a ReLU layer is returned unchanged; a fused relu keeps its kernel and bias and
    gets the policy with default arguments; a ReLU layer gets the policy with its own `max_value`,
    `threshold` and `negative_slope`. -/
theorem override_only_relu (r : Rule) (net : List Layer) :
    (overrideRelu r net).length = net.length ∧
    (∀ (i : Nat) l, net[i]? = some l → (overrideRelu r net)[i]? = some (overrideLayer r l)) ∧
    (∀ l, ¬ IsReluUnit l → overrideLayer r l = l) ∧
    (∀ W b, overrideLayer r (.dense W b .relu) = .dense W b (.policy r)) ∧
    (overrideLayer r (.activation .relu) = .activation (.policy r)) ∧
    (∀ m t s, overrideLayer r (.reluLayer m t s) = .policyLayer r m t s) := by
  refine ⟨List.length_map _, fun i l h => ?_, fun l hl => ?_, fun _ _ => rfl, rfl, fun _ _ _ => rfl⟩
  · rw [overrideRelu, List.getElem?_map, h]
    rfl
  · -- the three shapes that `overrideLayer` rewrites are exactly the ReLU units
    unfold overrideLayer
    split
    · exact absurd (Or.inl rfl) hl
    · exact absurd (Or.inl rfl) hl
    · exact absurd (Or.inr rfl) hl
    · rfl

/-- a network without any ReLU unit is returned as it is: true gradients everywhere -/
theorem override_no_relu_id (r : Rule) (net : List Layer) (h : ∀ l ∈ net, ¬ IsReluUnit l) :
    overrideRelu r net = net :=
  (List.map_congr_left fun l hl => (override_only_relu r net).2.2.1 l (h l hl)).trans (List.map_id net)

/-- back-propagation through the overridden clone = the published procedure on the original network
    (policy-generic form; `deconv_backward` and `guided_backward` are its two instances) -/
theorem override_backward_eq_spec (r : Rule) (net : List Layer) (x up : Vec) :
    backward (overrideRelu r net) x up = specBackward r net x up := by
  induction net generalizing x with
  | nil => rfl
  | cons l ls ih =>
    show layerVJP (overrideLayer r l) x
        (backward (overrideRelu r ls) (layerFwd (overrideLayer r l) x) up) = _
    rw [specBackward_cons, layerFwd_override r l, ih, layerVJP_override]

/-- **DeconvNet** — the gradient of the overridden clone is the vector-Jacobian product in which every
    ReLU unit (fused, `Activation('relu')`, ReLU layer) maps the incoming gradient `g ↦ max(g, 0)` and every
    other layer uses its true derivative; pre-activations are those of the ORIGINAL network. -/
theorem deconv_backward (net : List Layer) (x up : Vec) :
    backward (overrideRelu .deconv net) x up = specBackward .deconv net x up ∧
    (∀ z g, published .deconv z g = ratMax g 0) :=
  ⟨override_backward_eq_spec .deconv net x up, fun _ _ => rfl⟩

/-- **GuidedBackprop** — same with `g ↦ g` if `g > 0` and the unit's pre-activation `z > 0`, else `0`. -/
theorem guided_backward (net : List Layer) (x up : Vec) :
    backward (overrideRelu .guided net) x up = specBackward .guided net x up ∧
    (∀ z g, published .guided z g = if 0 < z ∧ 0 < g then g else 0) :=
  ⟨override_backward_eq_spec .guided net x up, fun _ _ => rfl⟩

/-- the published rules never let a negative gradient through, and GuidedBackprop lets nothing through a
    unit that is not active -/
theorem published_nonneg (z g : Rat) :
    0 ≤ published .deconv z g ∧ 0 ≤ published .guided z g ∧ (z ≤ 0 → published .guided z g = 0) := by
  refine ⟨?_, ?_, fun hz => if_neg fun h => absurd h.1 (not_lt.mpr hz)⟩
  · show 0 ≤ ratMax g 0
    rw [ratMax_eq]
    exact le_max_right g 0
  · show 0 ≤ (if 0 < z ∧ 0 < g then g else 0)
    split
    next h => exact h.2.le
    next => exact le_refl 0

/-- **The user's model is not altered** — in the model the override is a pure function: it returns a new
    list and the argument is (trivially) the same value afterwards.  On the implementation this clause is
    CHECKED by the harness (outputs, weights, activations and `call` attributes before / after). -/
theorem override_pure (r : Rule) (net : List Layer) :
    (fun n => (overrideRelu r n, n)) net = (overrideRelu r net, net) := rfl

/-- **Batching** — DeconvNet / GuidedBackprop explain each sample on its own, for every batch size -/
theorem deconvnet_per_sample (r : Rule) (bs : Option Nat) (hbs : ∀ b, bs = some b → 0 < b)
    (net : List Layer) (xys : List (Vec × Vec)) :
    explain r bs net xys = xys.map fun xy => backward (overrideRelu r net) xy.1 xy.2 :=
  batched_eq_map _ _ (fun _ => rfl) bs hbs xys

theorem deconvnet_bs_indep (r : Rule) (b : Nat) (hb : 0 < b) (net : List Layer)
    (xys : List (Vec × Vec)) : explain r (some b) net xys = explain r none net xys :=
  batched_bs_indep _ _ (fun _ => rfl) b hb xys

/-- **DeconvNet / GuidedBackprop main theorem** — the explanation is the published procedure on the
    original network for every sample and every batch size. -/
theorem deconvnet_eq_published (r : Rule) (bs : Option Nat) (hbs : ∀ b, bs = some b → 0 < b)
    (net : List Layer) (xys : List (Vec × Vec)) :
    explain r bs net xys = xys.map fun xy => specBackward r net xy.1 xy.2 := by
  rw [deconvnet_per_sample r bs hbs]
  exact List.map_congr_left fun xy _ => override_backward_eq_spec r net xy.1 xy.2

-- non-vacuity: a network with a fused relu, a thresholded / clipped / leaky ReLU layer and a standard
-- ReLU layer; forward is unchanged, DeconvNet / GuidedBackprop / the true gradient all differ.
private def exNet : List Layer :=
  [.dense [[1, -1], [2, 1]] [0, 1] .relu, .reluLayer (some 2) (1/2) (1/4),
   .dense [[1, -2], [-1, 1]] [0, 0] .linear, .reluLayer none 0 0]

example : forward exNet [1, 1] = [1, 0] ∧ forward (overrideRelu .guided exNet) [1, 1] = [1, 0]
    ∧ forward exNet [1, -1] = [0, 1/8] ∧ forward (overrideRelu .deconv exNet) [1, -1] = [0, 1/8] := by
  decide +kernel
example : backward exNet [1, 1] [1, 1] = [1, -1]
    ∧ backward (overrideRelu .deconv exNet) [1, 1] [1, 1] = [0, 0]
    ∧ backward (overrideRelu .guided exNet) [1, 1] [1, 1] = [1, 2]
    ∧ specBackward .guided exNet [1, 1] [1, 1] = [1, 2] := by
  decide +kernel

end Xp.Net

namespace Xp.GradCam

/-- the weighted sum written by the code (`reduce_sum(A * w, -1)` then `tf.nn.relu`) is the indexed
    formula `max(0, Σ_k w_k A_k[p])` -/
private theorem applyWeights_eq (K : Nat) (wf : Nat → Rat) (A : Maps) :
    applyWeights ((List.range K).map wf) A
      = A.map fun row => ratMax 0 (sumQ ((List.range K).map fun k => wf k * row.getD k 0)) := by
  unfold applyWeights
  apply List.map_congr_left
  intro row _
  rw [sumQ_zipWith_getD, relu_eq, ratMax_eq, max_comm, List.length_map, List.length_range]
  congr 2
  apply List.map_congr_left
  intro k hk
  rw [getD_range_map K wf k (List.mem_range.mp hk)]

private theorem weights_eq (m : Method) (K : Nat) (s : Sample) :
    weights m K s = (List.range K).map (specWeight m s) := by
  cases m with
  | gradcam =>
    apply List.map_congr_left
    intro k _
    exact meanQ_chan_id s.G k
  | gradcampp eps =>
    apply List.map_congr_left
    intro k _
    show meanQ ((chan s.G k).map fun g => g * g / ppDen eps (meanQ (chan s.A k)) g * relu g) = specWeightPP eps s k
    rw [meanQ_chan s.G k, meanQ_chan_id s.A k]
    unfold specWeightPP
    congr 2
    apply List.map_congr_left
    intro row _
    rw [specAlpha_eq, sq, relu_eq, ratMax_eq]

theorem gradcam_per_sample (m : Method) (K : Nat) (bs : Option Nat) (hbs : ∀ b, bs = some b → 0 < b)
    (samples : List Sample) :
    explain m K bs samples = samples.map fun s => applyWeights (weights m K s) s.A :=
  batched_eq_map _ _ (fun _ => rfl) bs hbs samples

/-- **Grad-CAM / Grad-CAM++ refinement** — for every number of channels, feature-map size, number of
    samples and batch size, `GradCAM.explain` (before the resize) returns for each sample
    `max(0, Σ_k w_k·A_k)` with the documented weights of the method. -/
theorem gradcam_impl_eq_spec (m : Method) (K : Nat) (bs : Option Nat) (hbs : ∀ b, bs = some b → 0 < b)
    (samples : List Sample) : explain m K bs samples = samples.map (specCam m K) := by
  rw [gradcam_per_sample m K bs hbs]
  apply List.map_congr_left
  intro s _
  rw [weights_eq, applyWeights_eq]
  rfl

/-- **Grad-CAM** — weights are the spatial means of the gradients (`w_k · Z = Σ_p G_k[p]`, `Z` = number of
    feature-map positions) and the map is non-negative. -/
theorem gradcam_spec (K : Nat) (bs : Option Nat) (hbs : ∀ b, bs = some b → 0 < b) (samples : List Sample) :
    explain .gradcam K bs samples = samples.map (specCam .gradcam K) ∧
    (∀ s k, 0 < s.G.length → specWeight .gradcam s k * (s.G.length : Rat) = sumQ (s.G.map fun row => row.getD k 0)) ∧
    (∀ s ∈ samples, ∀ v ∈ specCam .gradcam K s, 0 ≤ v) :=
  ⟨gradcam_impl_eq_spec .gradcam K bs hbs samples,
   fun _ _ hpos => div_mul_cancel₀ _ (Nat.cast_ne_zero.mpr (Nat.pos_iff_ne_zero.mp hpos)),
   fun s _ => specCam_nonneg .gradcam K s⟩

/-- the guarded Grad-CAM++ denominator is never zero (`ε ≠ 0`): no division by zero, no NaN -/
theorem gradcampp_den_ne_zero (eps avg g : Rat) (heps : eps ≠ 0) : ppDen eps avg g ≠ 0 := by
  unfold ppDen
  rw [guard_eq]
  split
  · exact heps
  · assumption

/-- **Grad-CAM++** — weights are `mean_spatial(α · relu G)` with `α = G² / den'`,
    `den = 2G² + G³·mean_spatial(A_k)`, `den' = den + [den = 0]·ε ≠ 0`; the map is non-negative. -/
theorem gradcampp_spec (eps : Rat) (heps : eps ≠ 0) (K : Nat) (bs : Option Nat)
    (hbs : ∀ b, bs = some b → 0 < b) (samples : List Sample) :
    explain (.gradcampp eps) K bs samples = samples.map (specCam (.gradcampp eps) K) ∧
    (∀ avg g, ppDen eps avg g ≠ 0 ∧
        ppDen eps avg g = (2 * g ^ 2 + g ^ 3 * avg) + (if 2 * g ^ 2 + g ^ 3 * avg = 0 then eps else 0) ∧
        specAlpha eps avg g = g ^ 2 / ppDen eps avg g) ∧
    (∀ s ∈ samples, ∀ v ∈ specCam (.gradcampp eps) K s, 0 ≤ v) := by
  refine ⟨gradcam_impl_eq_spec _ K bs hbs samples,
    fun avg g => ⟨gradcampp_den_ne_zero eps avg g heps, ?_, specAlpha_eq eps avg g⟩,
    fun s _ => specCam_nonneg _ K s⟩
  rw [sq, pow_three']
  show _ + (if _ then 1 else 0) * eps = _
  rw [ite_mul, one_mul, zero_mul]

/-- Grad-CAM++ weights are non-negative when the chosen layer's activations are (e.g. a conv layer with a
    fused relu): every `α` is then a quotient of non-negative numbers. -/
theorem gradcampp_weight_nonneg (eps : Rat) (s : Sample) (k : Nat)
    (hA : ∀ row ∈ s.A, 0 ≤ row.getD k 0) : 0 ≤ specWeight (.gradcampp eps) s k := by
  show 0 ≤ specWeightPP eps s k
  unfold specWeightPP
  refine div_nonneg (sumQ_map_nonneg _ _ fun row _ => ?_) (Nat.cast_nonneg _)
  rw [ratMax_eq]
  rcases le_or_gt (row.getD k 0) 0 with hg | hg
  · rw [max_eq_right hg, mul_zero]
  · exact mul_nonneg
      (specAlpha_nonneg eps _ _ (div_nonneg (sumQ_map_nonneg _ _ hA) (Nat.cast_nonneg _)) hg)
      (le_max_right _ _)

/-- **Batching** (exported for C03): the maps do not depend on the batch size -/
theorem gradcam_bs_indep (m : Method) (K : Nat) (b : Nat) (hb : 0 < b) (samples : List Sample) :
    explain m K (some b) samples = explain m K none samples :=
  batched_bs_indep _ _ (fun _ => rfl) b hb samples

/-- **Default layer** — without `conv_layer` Grad-CAM reads the LAST layer that has a `filters`
    attribute: the chosen index carries `filters` and no later layer does; there is no choice iff no
    layer has `filters`. -/
theorem gradcam_default_layer (fl : List Bool) :
    (∀ i, defaultConv fl = some i ↔
        (i < fl.length ∧ fl.getD i false = true ∧ ∀ j, i < j → j < fl.length → fl.getD j false = false)) ∧
    (defaultConv fl = none ↔ ∀ j, j < fl.length → fl.getD j false = false) := by
  refine ⟨find_range_reverse_some fl.length _, ?_⟩
  simp only [defaultConv, List.find?_eq_none, List.mem_reverse, List.mem_range, Bool.not_eq_true]

/-- `conv_layer` given as an `int` follows Python list indexing (negative indices from the end) -/
theorem gradcam_index_layer (n : Nat) (i : Int) (k : Nat) :
    pyIndex n i = some k ↔
      ((0 ≤ i ∧ i = (k : Int) ∧ k < n) ∨ (i < 0 ∧ -(n : Int) ≤ i ∧ (k : Int) = (n : Int) + i)) := by
  unfold pyIndex
  by_cases h0 : 0 ≤ i
  · -- `i = ↑m`: only the first alternative is possible, and it says `k = m < n`
    obtain ⟨m, rfl⟩ := Int.eq_ofNat_of_zero_le h0
    rw [if_pos h0, Int.toNat_natCast]
    constructor
    · intro h
      split at h
      next hlt => exact Or.inl ⟨h0, congrArg Nat.cast (Option.some.inj h), Option.some.inj h ▸ Int.ofNat_lt.mp hlt⟩
      next => cases h
    · rintro (⟨_, h, hk⟩ | ⟨h, _⟩)
      · rw [if_pos (h ▸ Int.ofNat_lt.mpr hk), Int.ofNat_inj.mp h]
      · exact absurd h0 (not_le.mpr h)
  · -- `i < 0`: only the second alternative is possible, and it says `k = n + i`
    have hi := not_le.mp h0
    rw [if_neg h0]
    constructor
    · intro h
      split at h
      next hle =>
        refine Or.inr ⟨hi, hle, ?_⟩
        rw [← Option.some.inj h, Int.toNat_of_nonneg (neg_le_iff_add_nonneg.mp hle), add_comm]
      next => cases h
    · rintro (⟨h, _⟩ | ⟨_, hle, h⟩)
      · exact absurd h (not_le.mpr hi)
      · rw [if_pos hle, add_comm, ← h, Int.toNat_natCast]

-- non-vacuity: two samples, two channels, batch size 1; the Grad-CAM++ example hits the `den = 0` guard
-- with a non-zero numerator (G = 1, mean A = -2), where the weight is 1/(2ε)
example : explain .gradcam 2 (some 1) [⟨[[1,2],[3,-1]], [[1,-1],[3,-1]]⟩, ⟨[[1,0],[0,1]], [[2,0],[0,2]]⟩]
    = [[0, 7], [1, 1]] := by decide +kernel
example : explain (.gradcampp (1/10000)) 2 none [⟨[[1,2],[3,-1]], [[1,-1],[3,-1]]⟩, ⟨[[1,0],[-5,1]], [[1,0],[0,2]]⟩]
    = [[5/16, 15/16], [5000, 0]] := by decide +kernel
example : defaultConv [false, true, false, true, false] = some 3 ∧ pyIndex 5 (-2) = some 3
    ∧ byName ["in", "c1", "c2"] "c2" = some 2 := by decide +kernel

end Xp.GradCam
