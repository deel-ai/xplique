/-
  C20 — CRAFT factors are non-negative, consistent, and importances are Sobol indices.

  Model: XpModel/Craft.lean.  The feature extractor, the head's class logit and sklearn's NMF are
  parameters; the NMF hypothesis `NmfOk` ("non-negative, one row per input row, `transform` acts
  row-wise") is re-validated by the harness on every case.  Everything holds for all image sizes,
  patch sizes, numbers of concepts, design sizes and batch sizes.
-/
import XpModel.Craft
import XpProofs.Lemmas.Craft
import XpProofs.Properties.C08

namespace Xp.Craft
open Xp.Sobol

/-- the generated stride expression `int(patch_size * 0.80)` is `⌊4p/5⌋` -/
theorem craft_stride (p : Nat) : stride p = 4 * p / 5 := by
  rw [stride, Gen.craftStride]
  -- the literals are casts of naturals, and casts commute with `*` and `//`
  show (Int.fdiv ((p : Int) * ((4 : Nat) : Int)) ((5 : Nat) : Int)).toNat = _
  rw [← Int.natCast_mul, ← Int.ofNat_fdiv, Int.toNat_natCast, Nat.mul_comm]

/-- the number of crops is `N · windows(H) · windows(W)` (also for `H ≠ W`) -/
theorem craft_patch_count (c h w p : Nat) (imgs : List (List Rat)) :
    (extractPatches c h w p imgs).length
      = imgs.length * (nWin h p (stride p) * nWin w p (stride p)) := by
  refine length_flatMap_uniform _ _ _ fun img _ => ?_
  rw [patchesOf, length_flatMap_uniform _ _ _ fun wr _ => by rw [List.length_map, List.length_range],
    List.length_range]

/-- every crop has `C · p · p` values -/
theorem craft_patch_size (c h w p : Nat) (imgs : List (List Rat)) :
    ∀ q ∈ extractPatches c h w p imgs, q.length = c * p * p := by
  intro q hq
  obtain ⟨img, _, hq⟩ := List.mem_flatMap.mp hq
  obtain ⟨wr, _, hq⟩ := List.mem_flatMap.mp hq
  obtain ⟨wc, _, rfl⟩ := List.mem_map.mp hq
  rw [List.length_map, List.length_range]

/-- what CRAFT assumes of sklearn's NMF with `r` components -/
structure NmfOk (nmf : Nmf) (r : Nat) : Prop where
  u_rows : ∀ A, (nmf.fitTransform A).1.length = A.length
  w_rows : ∀ A, (nmf.fitTransform A).2.length = r
  u_nonneg : ∀ A, ∀ row ∈ (nmf.fitTransform A).1, ∀ v ∈ row, 0 ≤ v
  w_nonneg : ∀ A, ∀ row ∈ (nmf.fitTransform A).2, ∀ v ∈ row, 0 ≤ v
  row_len : ∀ a, (nmf.row a).length = r
  row_nonneg : ∀ a, ∀ v ∈ nmf.row a, 0 ≤ v

/-- `fit` with 2-D activations, under the NMF hypothesis:
    one row of `U` per crop, one row of `W` per concept, both non-negative, for every batch size.
    Partial: NMF itself (sklearn) is the hypothesis `NmfOk`. -/
theorem fit2_factors_partial (nmf : Nmf) (r : Nat) (hn : NmfOk nmf r) (act : List Rat → List Rat)
    (bs : Nat) (hb : 0 < bs) (c h w p : Nat) (imgs : List (List Rat)) :
    let (crops, u, wbank) := fit2 nmf act bs c h w p imgs
    crops.length = imgs.length * (nWin h p (stride p) * nWin w p (stride p)) ∧
    u.length = crops.length ∧ wbank.length = r ∧
    (∀ row ∈ u, ∀ v ∈ row, 0 ≤ v) ∧ (∀ row ∈ wbank, ∀ v ∈ row, 0 ≤ v) := by
  unfold fit2
  dsimp only
  rw [batchInference_eq_map act bs hb]
  refine ⟨craft_patch_count c h w p imgs, ?_, hn.w_rows _, hn.u_nonneg _, hn.w_nonneg _⟩
  rw [hn.u_rows, List.length_map]

/-- the same with 4-D activations (average pooling before the factorisation) -/
theorem fit4_factors_partial (nmf : Nmf) (r : Nat) (hn : NmfOk nmf r) (act : List Rat → List (List Rat))
    (nc bs : Nat) (hb : 0 < bs) (c h w p : Nat) (imgs : List (List Rat)) :
    let (crops, u, wbank) := fit4 nmf act nc bs c h w p imgs
    crops.length = imgs.length * (nWin h p (stride p) * nWin w p (stride p)) ∧
    u.length = crops.length ∧ wbank.length = r ∧
    (∀ row ∈ u, ∀ v ∈ row, 0 ≤ v) ∧ (∀ row ∈ wbank, ∀ v ∈ row, 0 ≤ v) := by
  unfold fit4
  dsimp only
  rw [batchInference_eq_map act bs hb]
  refine ⟨craft_patch_count c h w p imgs, ?_, hn.w_rows _, hn.u_nonneg _, hn.w_nonneg _⟩
  rw [hn.u_rows, List.length_map, List.length_map]

/-- `transform` with 2-D activations: one coefficient row per input: the NMF coefficients of its activation -/
theorem transform2_rows (nmf : Nmf) (act : List Rat → List Rat) (bs : Nat) (hb : 0 < bs)
    (inputs : List (List Rat)) :
    transform2 nmf act bs inputs = inputs.map fun x => nmf.row (act x) := by
  unfold transform2
  rw [batchInference_eq_map act bs hb, List.map_map]; rfl

private theorem transform4_eq (nmf : Nmf) (act : List Rat → List (List Rat)) (bs hw : Nat) (hb : 0 < bs)
    (inputs : List (List Rat)) :
    transform4 nmf act bs hw inputs = regroup hw ((inputs.map act).flatten.map nmf.row) := by
  unfold transform4
  rw [batchInference_eq_map act bs hb]

/-- `transform` with 4-D activations: reshaping to 2-D, transforming and reshaping back gives, for
    every input and location, the NMF coefficients of the activation at that location -/
theorem transform_reshape (nmf : Nmf) (act : List Rat → List (List Rat)) (bs hw : Nat) (hb : 0 < bs)
    (hhw : 0 < hw) (inputs : List (List Rat)) (hact : ∀ x ∈ inputs, (act x).length = hw) :
    transform4 nmf act bs hw inputs = inputs.map fun x => (act x).map nmf.row := by
  rw [transform4_eq nmf act bs hw hb, regroup, List.map_flatten, batches_flatten_uniform hw hhw, List.map_map]
  · rfl
  · intro l hl
    obtain ⟨l', hl', rfl⟩ := List.mem_map.mp hl
    obtain ⟨x, hx, rfl⟩ := List.mem_map.mp hl'
    rw [List.length_map]; exact hact x hx

theorem transform_bs_indep (nmf : Nmf) (act : List Rat → List Rat) (b b' : Nat) (hb : 0 < b)
    (hb' : 0 < b') (inputs : List (List Rat)) :
    transform2 nmf act b inputs = transform2 nmf act b' inputs := by
  rw [transform2_rows nmf act b hb, transform2_rows nmf act b' hb']

theorem transform4_bs_indep (nmf : Nmf) (act : List Rat → List (List Rat)) (b b' hw : Nat)
    (hb : 0 < b) (hb' : 0 < b') (inputs : List (List Rat)) :
    transform4 nmf act b hw inputs = transform4 nmf act b' hw inputs :=
  (transform4_eq nmf act b hw hb inputs).trans (transform4_eq nmf act b' hw hb' inputs).symm

/-- the coefficients returned by `transform` are non-negative (NMF hypothesis) -/
theorem transform_nonneg_partial (nmf : Nmf) (r : Nat) (hn : NmfOk nmf r) (act : List Rat → List Rat)
    (bs : Nat) (hb : 0 < bs) (inputs : List (List Rat)) :
    ∀ row ∈ transform2 nmf act bs inputs, row.length = r ∧ ∀ v ∈ row, 0 ≤ v := by
  rw [transform2_rows nmf act bs hb]
  intro row hrow
  obtain ⟨x, _, rfl⟩ := List.mem_map.mp hrow
  exact ⟨hn.row_len _, hn.row_nonneg _⟩

/-! Both branches of `estimate_importance` are `colMeanO r (coeffs.map fun c => estimate .jansen (…) n r)` over
the coefficients `c` of the inputs, and both references are
`colMeanO r (coeffs.map fun c => sobolOfMasked (score c) n r masks)`: the facts are proved for that shape, whatever
the coefficients and the masked score are. -/

theorem estimate_jansen_affine (ys : List Rat) (n d : Nat) (a b : Rat) (ha : a ≠ 0) :
    estimate .jansen (ys.map fun v => a * v + b) n d = estimate .jansen ys n d := by
  unfold estimate splitABC
  simp only [map_slice, List.map_map, estOne]
  exact List.map_congr_left fun i _ => jansen_affine n _ _ a b ha

private theorem estimate_jansen_nonneg (ys : List Rat) (n d j : Nat) (v : Rat)
    (h : (estimate .jansen ys n d)[j]? = some (some v)) : 0 ≤ v := by
  obtain ⟨yc, _, hyc⟩ := List.mem_map.mp (List.mem_of_getElem? h)
  exact jansen_nonneg n _ yc v hyc

private theorem sobolOfMasked_batched {β : Type} (logit : β → Rat) (f : List Rat → β) (bs n r : Nat) (hb : 0 < bs)
    (masks : List (List Rat)) :
    estimate .jansen (batchInference (fun b => b.map logit) bs (masks.map f)) n r
      = sobolOfMasked (fun m => logit (f m)) n r masks := by
  rw [batchInference_eq_map logit bs hb, List.map_map]; rfl

private theorem sobolOfMasked_affine (score : List Rat → Rat) (n r : Nat) (masks : List (List Rat)) (a b : Rat)
    (ha : a ≠ 0) : sobolOfMasked (fun m => a * score m + b) n r masks = sobolOfMasked score n r masks := by
  unfold sobolOfMasked
  rw [← estimate_jansen_affine (masks.map score) n r a b ha, List.map_map]; rfl

private theorem jansenMean_nonneg {γ : Type} (score : γ → List Rat → Rat) (n r : Nat) (masks : List (List Rat))
    (coeffs : List γ) (j : Nat) (s : Rat)
    (h : (colMeanO r (coeffs.map fun c => sobolOfMasked (score c) n r masks))[j]? = some (some s)) : 0 ≤ s :=
  colMeanO_induction (P := (0 ≤ ·)) le_rfl (fun _ _ => add_nonneg) (fun _ k ha => div_nonneg ha k.cast_nonneg) h
    fun row hrow v hv => by
      obtain ⟨c, _, rfl⟩ := List.mem_map.mp hrow
      exact estimate_jansen_nonneg _ n r j v hv

private theorem jansenMean_zero_inert {γ : Type} (score : γ → List Rat → Rat) (A B : List (List Rat)) (n r i : Nat)
    (hA : A.length = n) (hB : B.length = n) (hi : i < r) (coeffs : List γ)
    (hig : ∀ c ∈ coeffs, ∀ m v, score c (m.set i v) = score c m) (s : Rat)
    (h : (colMeanO r (coeffs.map fun c => sobolOfMasked (score c) n r (design A B r)))[i]? = some (some s)) :
    s = 0 :=
  colMeanO_induction (P := (· = 0)) rfl (fun _ _ ha hb => by rw [ha, hb, add_zero])
    (fun _ _ ha => by rw [ha, zero_div]) h
    fun row hrow v hv => by
      obtain ⟨c, hc, rfl⟩ := List.mem_map.mp hrow
      exact jansen_zero_inert_design (score c) A B n r i hA hB hi (hig c hc) v hv

/-- 2-D coefficients: for every batch size `estimate_importance` is the mean over
    the inputs of the Jansen total-order indices of `m ↦ logit((u ⊙ m) W)` on the design `masks` -/
theorem importance_is_jansen (logit : List Rat → Rat) (bs n r : Nat) (hb : 0 < bs)
    (wbank masks coeffs : List (List Rat)) :
    importance2 logit bs n r wbank masks coeffs = importanceSpec2 logit n r wbank masks coeffs := by
  simp only [importance2, importanceSpec2, sobolOfMasked_batched logit _ bs n r hb]

/-- the same for 4-D coefficients, the mask of a concept applied at every location: `m ↦ logit(((u ⊙ m) W)_locations)` -/
theorem importance4_is_jansen (logit : List (List Rat) → Rat) (bs n r : Nat) (hb : 0 < bs)
    (wbank masks : List (List Rat)) (coeffs : List (List (List Rat))) :
    importance4 logit bs n r wbank masks coeffs = importanceSpec4 logit n r wbank masks coeffs := by
  simp only [importance4, importanceSpec4, sobolOfMasked_batched logit _ bs n r hb]

/-- every importance that is defined (no zero-variance input) is `≥ 0` -/
theorem importance_nonneg (logit : List Rat → Rat) (bs n r : Nat) (hb : 0 < bs)
    (wbank masks coeffs : List (List Rat)) (j : Nat) (s : Rat)
    (h : (importance2 logit bs n r wbank masks coeffs)[j]? = some (some s)) : 0 ≤ s := by
  rw [importance_is_jansen logit bs n r hb, importanceSpec2] at h
  exact jansenMean_nonneg _ n r masks coeffs j s h

theorem importance4_nonneg (logit : List (List Rat) → Rat) (bs n r : Nat) (hb : 0 < bs)
    (wbank masks : List (List Rat)) (coeffs : List (List (List Rat))) (j : Nat) (s : Rat)
    (h : (importance4 logit bs n r wbank masks coeffs)[j]? = some (some s)) : 0 ≤ s := by
  rw [importance4_is_jansen logit bs n r hb, importanceSpec4] at h
  exact jansenMean_nonneg _ n r masks coeffs j s h

/-- replacing the logit by `α·logit + β`, `α ≠ 0` (in particular every
    positive rescaling) does not change the importances, for every batch size -/
theorem importance_affine (logit : List Rat → Rat) (bs n r : Nat) (hb : 0 < bs)
    (wbank masks coeffs : List (List Rat)) (a b : Rat) (ha : a ≠ 0) :
    importance2 (fun z => a * logit z + b) bs n r wbank masks coeffs
      = importance2 logit bs n r wbank masks coeffs := by
  rw [importance_is_jansen _ bs n r hb, importance_is_jansen _ bs n r hb]
  simp only [importanceSpec2, sobolOfMasked_affine _ n r masks a b ha]

theorem importance4_affine (logit : List (List Rat) → Rat) (bs n r : Nat) (hb : 0 < bs)
    (wbank masks : List (List Rat)) (coeffs : List (List (List Rat))) (a b : Rat) (ha : a ≠ 0) :
    importance4 (fun z => a * logit z + b) bs n r wbank masks coeffs
      = importance4 logit bs n r wbank masks coeffs := by
  rw [importance4_is_jansen _ bs n r hb, importance4_is_jansen _ bs n r hb]
  simp only [importanceSpec4, sobolOfMasked_affine _ n r masks a b ha]

/-- on a replicated design, a concept whose mask value never changes
    the class logit of any input has importance exactly 0 (whenever the importance is defined) -/
theorem importance_zero_ignored (logit : List Rat → Rat) (bs n r i : Nat) (hb : 0 < bs) (hi : i < r)
    (wbank A B coeffs : List (List Rat)) (hA : A.length = n) (hB : B.length = n)
    (hig : ∀ u ∈ coeffs, ∀ m v, logit (recon wbank u (m.set i v)) = logit (recon wbank u m))
    (s : Rat) (h : (importance2 logit bs n r wbank (design A B r) coeffs)[i]? = some (some s)) : s = 0 := by
  rw [importance_is_jansen logit bs n r hb, importanceSpec2] at h
  exact jansenMean_zero_inert _ A B n r i hA hB hi coeffs hig s h

/-- the same for 4-D coefficients: the logit ignores the mask value of concept `i` at every location -/
theorem importance4_zero_ignored (logit : List (List Rat) → Rat) (bs n r i : Nat) (hb : 0 < bs) (hi : i < r)
    (wbank A B : List (List Rat)) (coeffs : List (List (List Rat))) (hA : A.length = n) (hB : B.length = n)
    (hig : ∀ locs ∈ coeffs, ∀ m v,
      logit (locs.map fun u => recon wbank u (m.set i v)) = logit (locs.map fun u => recon wbank u m))
    (s : Rat) (h : (importance4 logit bs n r wbank (design A B r) coeffs)[i]? = some (some s)) : s = 0 := by
  rw [importance4_is_jansen logit bs n r hb, importanceSpec4] at h
  exact jansenMean_zero_inert _ A B n r i hA hB hi coeffs hig s h

/-! ## non-vacuity -/

/-- a (degenerate) factoriser satisfying the NMF hypothesis: the hypothesis is satisfiable -/
example : NmfOk { fitTransform := fun A => (A.map fun _ => [1, 0], [[1], [2]]), row := fun _ => [0, 1] } 2 where
  u_rows := fun A => List.length_map ..
  w_rows := fun _ => rfl
  u_nonneg := by
    intro A row hrow v hv
    obtain ⟨_, _, rfl⟩ := List.mem_map.mp hrow
    rcases List.mem_pair.mp hv with rfl | rfl
    exacts [zero_le_one, le_rfl]
  w_nonneg := by
    intro A row hrow v hv
    rcases List.mem_pair.mp hrow with rfl | rfl
    · rw [List.mem_singleton.mp hv]; exact zero_le_one
    · rw [List.mem_singleton.mp hv]; exact zero_le_two
  row_len := fun _ => rfl
  row_nonneg := by
    intro a v hv
    rcases List.mem_pair.mp hv with rfl | rfl
    exacts [le_rfl, zero_le_one]

example : extractPatches 1 3 4 2 [[1, 2, 3, 4, 5, 6, 7, 8, 9, 10, 11, 12]]
    = [[1, 2, 5, 6], [2, 3, 6, 7], [3, 4, 7, 8], [5, 6, 9, 10], [6, 7, 10, 11], [7, 8, 11, 12]] := by
  decide +kernel
example : chunkLens 3 7 = [3, 3, 1] := by decide +kernel
example : importance2 (fun a => a.getD 0 0 + 3 * a.getD 1 0) 2 2 2 [[1, 0], [0, 1]]
    (design [[0, 1 / 2], [1, 1 / 4]] [[1 / 2, 1], [1 / 4, 0]] 2) [[1, 1], [2, 1]]
    = [some (377 / 100), some (117 / 10)] := by decide +kernel
/-- a head that ignores concept 1 (`logit` reads coordinate 0 of the reconstruction, `W` diagonal) -/
example : importance2 (fun a => a.getD 0 0) 2 2 2 [[1, 0], [0, 1]]
    (design [[0, 1 / 2], [1, 1 / 4]] [[1 / 2, 1], [1 / 4, 0]] 2) [[1, 1], [2, 1]] = [some (13 / 32), some 0] := by
  decide +kernel

end Xp.Craft
