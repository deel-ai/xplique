/-
  C05 — perturbation attributions are spatially aligned with what the model uses.

  Deterministic core: index alignment of every stage between "perturbed cell" and "reported cell",
  exact zeros of Occlusion and of Jansen's estimator on ignored cells, arg-max inside a rectangle for
  Occlusion.  The bilinear / crop-window alignment of RISE is in Properties/C09.
  The statistical shell (largest value inside the region for RISE, HSIC, Lime and, after the bicubic
  resize, Sobol) is NOT claimed here; it is evaluated on the implementation by the harness.

  `XpModel/Align.lean` models the spatial data flow of GSA / Sobol / HSIC / Lime a SECOND time, next to
  `XpModel/Gsa.lean` (`nearestIdx`, `upsample`, `perturb`), `Sobol.lean` (`jansenOne`), `Hsic.lean` (`postProcess`)
  and `Lime.lean` (`getMask`, `applyMask`, `broadcast`, `numFeatures`).  No theorem relates the two copies: each is
  tied to the code on its own by the driver runs (`XpDriver/C05.lean` for this one), and the theorems below speak of
  this copy only.
-/
import XpModel.Align
import XpModel.Occlusion
import XpProofs.Lemmas.Align
import XpProofs.Properties.C06
import Mathlib.Tactic.Linarith

namespace Xp.Align

/-- **Rows with rows, columns with columns** — pixel `(i, j)` of the `H × W` upsampled mask reads grid
    cell `(nn H gh i, nn W gw j)`: image height is paired with grid rows, width with grid columns. -/
theorem nn_rows_cols (gh gw H W : Nat) (grid : List Rat) (i j : Nat) (hi : i < H) (hj : j < W) :
    (upNN gh gw H W grid).getD (i * W + j) 0 = grid.getD (nn H gh i * gw + nn W gw j) 0 :=
  getD_rm H W (fun r c => grid.getD (nn H gh r * gw + nn W gw c) 0) hi hj

/-- the source index is a valid grid index -/
theorem nn_lt (out g i : Nat) (hg : 0 < g) : nn out g i < g :=
  lt_of_le_of_lt (min_le_right _ _) (Nat.sub_lt hg Nat.one_pos)

/-- **Order preserved, every grid cell visible** — for `g ≤ H` the index map is monotone (no flip) and
    onto `0 .. g-1` (no offset: the first pixel reads cell 0, the last reads cell `g-1`). -/
theorem nn_monotone_surj (H g : Nat) (hg : 0 < g) (hgH : g ≤ H) :
    Monotone (nn H g) ∧ nn H g 0 = 0 ∧ nn H g (H - 1) = g - 1 ∧ ∀ r, r < g → ∃ i, i < H ∧ nn H g i = r := by
  have hH : 0 < H := hg.trans_le hgH
  refine ⟨nn_mono H g, nn_zero H g hg hgH, nn_last H g hg hgH, fun r hr => ?_⟩
  -- the map starts at cell 0, ends at cell g - 1 and never skips a cell
  obtain ⟨i, hi, e⟩ := nat_ivt (nn H g) (fun i => nn_succ_le H g i hH hgH) (H - 1) r
    (by rw [nn_zero H g hg hgH]; exact Nat.zero_le r) (by rw [nn_last H g hg hgH]; exact Nat.le_sub_one_of_lt hr)
  exact ⟨i, Nat.lt_of_le_pred hH hi, e⟩

/-- the perturbed value of flat position `k` depends on the design row only through the grid cell of
    its pixel (all three perturbation functions are pointwise) -/
theorem gsa_pixel_reads_cell (pf : Pert) (g H W chan : Nat) (x x0 row : List Rat) (k : Nat)
    (hk : k < x.length) (hp : k / chan < H * W) :
    (perturb pf g H W chan x x0 row).getD k 0
      = pf.apply (x.getD k 0) (x0.getD k 0) (row.getD (cellOf g g H W (k / chan)) 0) := by
  rw [perturb_getD, if_pos hk, if_pos hp]

/-- **Sobol** — column `r·g + c` of the design IS mask cell `(r, c)` (the reshape keeps the flat order)
    and `post_process` reports index `r·g + c` at grid cell `(r, c)`: no transposition. -/
theorem sobol_cell_alignment (g : Nat) (stis : List Rat) (a r c : Nat) (hr : r < g) (hc : c < g) :
    maskIdx g a r c = designIdx g a (r * g + c) ∧
    (sobolPost g stis).getD (r * g + c) 0 = stis.getD (r * g + c) 0 := by
  constructor
  · unfold maskIdx designIdx; ring
  · exact getD_range_map _ _ _ (rm_lt hr hc)

/-- **HSIC dimension of a cell** — after the all-axes transpose and the reshape `(g², 1, n, 1)`, the
    `n` samples of dimension `c·g + r` are the values of mask cell `(r, c)` (column-major order). -/
theorem hsic_dim_of_cell (n g : Nat) (masks : List Rat) (a r c : Nat) (ha : a < n) (hr : r < g) (hc : c < g) :
    (hsicX1 n g masks).getD (hsicDim g r c * n + a) 0 = masks.getD (maskIdx g a r c) 0 := by
  have h := getD_rm (g * g) n (fun d a => masks.getD (maskIdx g a (d % g) (d / g)) 0) (rm_lt hc hr) ha (d := 0)
  rw [rm_div c hr, rm_mod c hr] at h
  exact h

/-- **HSIC post-processing undoes it** — the reported grid cell `(r, c)` holds the score of dimension
    `hsicDim g r c`, i.e. of the dimension whose samples are mask cell `(r, c)`. -/
theorem hsic_cell_alignment (g : Nat) (score : List Rat) (r c : Nat) (hr : r < g) (hc : c < g) :
    (hsicPost g score).getD (r * g + c) 0 = score.getD (hsicDim g r c) 0 :=
  getD_rm g g (fun r c => score.getD (c * g + r) 0) hr hc

/-- Sobol's reshape applied to HSIC's scores would report the transposed cell: the explicit
    transpose in `HsicEstimator.post_process` is necessary (and a transpose in Sobol's would be wrong) -/
theorem hsic_needs_transpose (g : Nat) (score : List Rat) (r c : Nat) (hr : r < g) (hc : c < g) :
    (sobolPost g score).getD (r * g + c) 0 = score.getD (hsicDim g c r) 0 :=
  getD_range_map _ _ _ (rm_lt hr hc)

/-- **Same mapping both ways** — pixel `p` is perturbed according to the sample bit of its own segment
    `mapping p`, and receives the coefficient of that same segment. -/
theorem lime_mask_broadcast (sample coef : List Rat) (mapping : List Nat) (p : Nat) (hp : p < mapping.length) :
    (limeMask sample mapping).getD p 0 = sample.getD (mapping[p]) 0 ∧
    (limeBroadcast coef mapping).getD p 0 = coef.getD (mapping[p]) 0 := by
  unfold limeMask limeBroadcast
  simp [List.getD_eq_getElem?_getD, hp]

/-- **The numbering of the segments is immaterial** — renumber the segments by any map `π` (column-major, reversed, shuffled
    ids ...) and permute the interpretable sample / the coefficient vector accordingly: every pixel is perturbed and reported
    exactly as before.  In particular the ids need not follow the raster scan. -/
theorem lime_renumbering (π : Nat → Nat) (sample sample' coef coef' : List Rat) (mapping : List Nat)
    (hs : ∀ f ∈ mapping, sample'.getD (π f) 0 = sample.getD f 0)
    (hc : ∀ f ∈ mapping, coef'.getD (π f) 0 = coef.getD f 0) :
    limeMask sample' (mapping.map π) = limeMask sample mapping ∧
    limeBroadcast coef' (mapping.map π) = limeBroadcast coef mapping := by
  unfold limeMask limeBroadcast
  rw [List.map_map, List.map_map]
  exact ⟨List.map_congr_left hs, List.map_congr_left hc⟩

/-- a pixel whose segment is kept (`sample = 1`) is untouched, one whose segment is dropped gets `ref` -/
theorem lime_apply_cell (chan : Nat) (x ref sample : List Rat) (mapping : List Nat) (k : Nat)
    (hk : k < x.length) (hp : k / chan < mapping.length) :
    (sample.getD (mapping[k / chan]) 0 = 1 →
        (limeApply chan x (limeMask sample mapping) ref).getD k 0 = x.getD k 0) ∧
    (sample.getD (mapping[k / chan]) 0 = 0 →
        (limeApply chan x (limeMask sample mapping) ref).getD k 0 = ref.getD (k % chan) 0) := by
  unfold limeApply
  rw [getD_range_map _ _ _ hk, (lime_mask_broadcast sample [] mapping _ hp).1]
  constructor
  · intro h
    rw [h, mul_one, sub_self, zero_mul, add_zero]
  · intro h
    rw [h, mul_zero, sub_zero, one_mul, zero_add]

open Occl in
/-- **Exact zero (general)** — if the score reads only the positions `R` and every patch covering
    feature cell `k` misses `R`, the Occlusion attribution of `k` is exactly `0`
    (every geometry, every batch size). -/
theorem occl_zero_outside (g : Geom) (hs : g.StridePos) (f : List Rat → Rat) (v : Rat) (b : Nat) (hb : 0 < b)
    (x : List Rat) (R : Nat → Prop) (hdep : DependsOnlyOn f R) (k : Nat) (hk : k < g.nfeat)
    (hmiss : ∀ m ∈ specMasks g, m.getD k false = true → ∀ j, R j → m.getD (j / g.chan) false = false) :
    (explainOne g f v b x).getD k 0 = 0 := by
  rw [explainOne_getD g hs f v b hb x hk]
  apply sumQ_map_eq_zero
  intro m hm
  cases hcov : m.getD k false
  · rw [if_neg Bool.false_ne_true, mul_zero]
  · rw [hdep x (occlude g x m v) (occlude_length g x m v).symm
      fun j hj => (occlude_getD_uncovered g x m v j (hmiss m hm hcov j hj)).symm, sub_self, zero_mul]

open Occl in
/-- comparison of two cells (any geometry, any region `R` the score reads and is monotone on): if every patch that covers `k`
    and touches `R` also covers `k'`, the attribution of `k` is at most that of `k'` — `occl_max_in_rect` is the 2-D instance -/
private theorem occl_le_of_cover (g : Geom) (hs : g.StridePos) (f : List Rat → Rat) (v : Rat) (b : Nat) (hb : 0 < b)
    (x : List Rat) (R : Nat → Prop) (hmono : MonoOn f R x.length) (hv : ∀ q, R q → v ≤ x.getD q 0)
    (k k' : Nat) (hk : k < g.nfeat) (hk' : k' < g.nfeat)
    (hcov : ∀ m ∈ specMasks g, m.getD k false = true → ∀ q, R q → m.getD (q / g.chan) false = true →
      m.getD k' false = true) :
    (explainOne g f v b x).getD k 0 ≤ (explainOne g f v b x).getD k' 0 := by
  rw [explainOne_getD g hs f v b hb x hk, explainOne_getD g hs f v b hb x hk']
  refine sumQ_map_le _ _ _ fun m hm => ?_
  have hle : f (occlude g x m v) ≤ f x := by
    refine hmono _ _ (occlude_length g x m v) rfl fun q hq => ?_
    rw [occlude_getD]
    split
    · exact hv q hq
    · exact le_rfl
  cases hck : m.getD k false
  · rw [if_neg Bool.false_ne_true, mul_zero]
    have hind : (0 : Rat) ≤ if m.getD k' false = true then 1 else 0 := by
      split
      · exact zero_le_one
      · exact le_rfl
    exact mul_nonneg (sub_nonneg.mpr hle) hind
  · by_cases hmeet : ∃ q, R q ∧ m.getD (q / g.chan) false = true
    · obtain ⟨q, hq, hqm⟩ := hmeet
      rw [hcov m hm hck q hq hqm]
    · -- a patch that misses `R` does not change the score
      rw [hmono.ignores x (occlude g x m v) rfl (occlude_length g x m v) fun q hq =>
        (occlude_getD_uncovered g x m v q (Bool.eq_false_iff.mpr fun h => hmeet ⟨q, hq, h⟩)).symm,
        sub_self, zero_mul, zero_mul]

open Occl in
/-- **Exact zero outside (images)** — score reading only the rectangle rows `[r0, r1)` × columns
    `[c0, c1)`; a cell `(i, j)` farther than a patch from the rectangle along one axis gets exactly `0`. -/
theorem occl_zero_far (a b c pa pb sa sb : Nat) (hs : 0 < sa ∧ 0 < sb) (f : List Rat → Rat) (v : Rat)
    (bsz : Nat) (hb : 0 < bsz) (x : List Rat) (r0 r1 c0 c1 : Nat)
    (hdep : DependsOnlyOn f (inRect b c r0 r1 c0 c1)) (i j : Nat) (hi : i < a) (hj : j < b)
    (hfar : i + pa ≤ r0 ∨ r1 + pa ≤ i + 1 ∨ j + pb ≤ c0 ∨ c1 + pb ≤ j + 1) :
    (explainOne (.two a b c pa pb sa sb) f v bsz x).getD (i * b + j) 0 = 0 := by
  apply occl_zero_outside (.two a b c pa pb sa sb) hs f v bsz hb x _ hdep (i * b + j) (rm_lt hi hj)
  intro m hm hcov q hq
  obtain ⟨ax, ay, hchar⟩ := specMasks_two_mem a b c pa pb sa sb m hm
  rw [hchar, rm_div i hj, rm_mod i hj] at hcov
  refine Bool.eq_false_iff.mpr fun hcq => ?_
  rw [hchar] at hcq
  exact (or_assoc.mpr hfar).elim (patch_not_far hcov.2.1 hcq.2.1 hq.1 hq.2.1)
    (patch_not_far hcov.2.2 hcq.2.2 hq.2.2.1 hq.2.2.2)

open Occl in
/-- **Arg-max inside the rectangle** — score non-decreasing in (and reading only) the rectangle,
    occlusion value not above the input there: the attribution of ANY cell `(i, j)` is at most that
    of its nearest cell inside the rectangle, so the largest attribution is attained inside it. -/
theorem occl_max_in_rect (a b c pa pb sa sb : Nat) (hs : 0 < sa ∧ 0 < sb) (f : List Rat → Rat) (v : Rat)
    (bsz : Nat) (hb : 0 < bsz) (x : List Rat) (r0 r1 c0 c1 : Nat)
    (hr : r0 < r1) (hc : c0 < c1) (hra : r1 ≤ a) (hcb : c1 ≤ b)
    (hmono : MonoOn f (inRect b c r0 r1 c0 c1) x.length)
    (hv : ∀ q, inRect b c r0 r1 c0 c1 q → v ≤ x.getD q 0)
    (i j : Nat) (hi : i < a) (hj : j < b) :
    (explainOne (.two a b c pa pb sa sb) f v bsz x).getD (i * b + j) 0
      ≤ (explainOne (.two a b c pa pb sa sb) f v bsz x).getD
          (clampN i r0 (r1 - 1) * b + clampN j c0 (c1 - 1)) 0 := by
  have hi' : clampN i r0 (r1 - 1) < a := clampN_lt _ hi (hr.trans_le hra)
  have hj' : clampN j c0 (c1 - 1) < b := clampN_lt _ hj (hc.trans_le hcb)
  apply occl_le_of_cover (.two a b c pa pb sa sb) hs f v bsz hb x _ hmono hv _ _ (rm_lt hi hj) (rm_lt hi' hj')
  -- a patch covering `(i, j)` and a cell `q` of the rectangle covers, on each axis,
  -- the point of the rectangle nearest to `(i, j)`
  intro m hm hcov q hq hcq
  obtain ⟨ax, ay, hchar⟩ := specMasks_two_mem a b c pa pb sa sb m hm
  rw [hchar, rm_div i hj, rm_mod i hj] at hcov
  rw [hchar] at hcq
  rw [hchar, rm_div _ hj', rm_mod _ hj']
  exact ⟨rm_lt hi' hj', patch_clampN hcov.2.1 hcq.2.1 hq.1 (Nat.le_sub_one_of_lt hq.2.1),
    patch_clampN hcov.2.2 hcq.2.2 hq.2.2.1 (Nat.le_sub_one_of_lt hq.2.2.2)⟩

private theorem jansenNum_self (F : List Rat → Rat) (G : List Rat → List Rat → Rat)
    (hG : ∀ ra rb, G ra rb = F ra) (A B : List (List Rat)) :
    jansenNum (A.map F) (List.zipWith G A B) = 0 := by
  unfold jansenNum
  induction A generalizing B with
  | nil => rfl
  | cons ra A ih =>
    cases B with
    | nil => rfl
    | cons rb B =>
      simp only [List.map_cons, List.zipWith_cons_cons, sumQ_cons, hG, sub_self, mul_zero, zero_add]
      exact ih B

private theorem perturb_inert (pf : Pert) (g H W chan : Nat) (f : List Rat → Rat) (x x0 : List Rat)
    (R : Nat → Prop) (hdep : DependsOnlyOn f R) (i : Nat)
    (hinert : ∀ k, R k → cellOf g g H W (k / chan) ≠ i) (ra rb : List Rat) :
    f (perturb pf g H W chan x x0 (replaceCol ra rb i)) = f (perturb pf g H W chan x x0 ra) := by
  apply hdep
  · simp only [perturb, List.length_map]
  · intro k hk
    rw [perturb_getD, perturb_getD, replaceCol_getD_ne ra rb (hinert k hk)]

/-- **Sobol assigns zero to ignored cells before upsampling** — if no position read by the score lies
    in a pixel of grid cell `i`, Jansen's total-order index of dimension `i` is exactly `0` whenever it is
    defined (`none` = zero output variance = NaN in the code); every perturbation function, design,
    grid and image size. -/
theorem sobol_zero_inert (pf : Pert) (g H W chan : Nat) (f : List Rat → Rat) (x x0 : List Rat)
    (A B : List (List Rat)) (i : Nat) (R : Nat → Prop) (hdep : DependsOnlyOn f R)
    (hinert : ∀ k, R k → cellOf g g H W (k / chan) ≠ i) :
    sobolIndex pf g H W chan f x x0 A B i = none ∨ sobolIndex pf g H W chan f x x0 A B i = some 0 := by
  unfold sobolIndex jansen
  rw [jansenNum_self _ _ (perturb_inert pf g H W chan f x x0 R hdep i hinert) A B]
  simp only
  split
  · exact Or.inl rfl
  · exact Or.inr (by rw [zero_div])

/-- **Arg-max cell (partial)** — a grid cell with a non-zero Jansen index contains a pixel position read
    by the score; in particular the arg-max cell of the pre-resize Sobol map meets the region whenever
    the map is not identically zero.  MISSING for the full property clause: the bicubic
    `tf.image.resize` of the grid is not modelled, so nothing is proved about the arg-max PIXEL of the
    returned map (evaluated on the implementation by the harness instead). -/
theorem sobol_argmax_cell_partial (pf : Pert) (g H W chan : Nat) (f : List Rat → Rat) (x x0 : List Rat)
    (A B : List (List Rat)) (i : Nat) (R : Nat → Prop) (hdep : DependsOnlyOn f R) (s : Rat)
    (hs : sobolIndex pf g H W chan f x x0 A B i = some s) (hne : s ≠ 0) :
    ∃ k, R k ∧ cellOf g g H W (k / chan) = i := by
  by_contra hno
  have hinert : ∀ k, R k → cellOf g g H W (k / chan) ≠ i := fun k hk e => hno ⟨k, hk, e⟩
  rcases sobol_zero_inert pf g H W chan f x x0 A B i R hdep hinert with h | h
  · rw [h] at hs; cases hs
  · rw [h] at hs; cases hs; exact hne rfl

-- non-vacuity
example : (List.range 10).map (nn 10 3) = [0, 0, 0, 1, 1, 1, 1, 2, 2, 2] := by decide
example : (List.range 6).map (nn 6 3) = [0, 0, 1, 1, 2, 2] := by decide
example : (List.range 6).map (cellOf 2 3 2 3) = [0, 1, 2, 3, 4, 5] := by decide
example : hsicPost 2 [10, 20, 30, 40] = [10, 30, 20, 40] := by decide +kernel
example : hsicX1 2 2 [1, 2, 3, 4, 5, 6, 7, 8] = [1, 5, 3, 7, 2, 6, 4, 8] := by decide +kernel
example : DependsOnlyOn (fun z => z.getD 0 0 + 2 * z.getD 1 0) (fun j => j < 2) := by
  intro z z' _ h; simp only [h 0 (by omega), h 1 (by omega)]
example : MonoOn (fun z => z.getD 0 0 + 2 * z.getD 1 0) (fun j => j < 2) 4 := by
  intro z z' _ _ h
  have h0 := h 0 (by omega)
  have h1 := h 1 (by omega)
  simp only
  linarith
example : inRect 10 3 0 2 7 10 (1 * 30 + 8 * 3 + 2) := by unfold inRect; omega

end Xp.Align
