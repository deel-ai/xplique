/-
  C06 — Occlusion equals its reference definition for every geometry.

  `Occl.explain` is the executable model of `Occlusion.explain` (it uses the anchor arithmetic
  GENERATED from the source); `Occl.specOne` is the reference definition of the property.
-/
import XpModel.Occlusion
import XpProofs.Lemmas.Occlusion
import XpProofs.Lemmas.Index
import Mathlib.Data.List.Sort

namespace Xp.Occl

private theorem mem_specAnchors {dim p s a : Nat} : a ∈ specAnchors dim p s ↔ s ∣ a ∧ a + p ≤ dim := by
  unfold specAnchors
  rw [List.mem_filter, List.mem_range, Bool.and_eq_true, decide_eq_true_eq, decide_eq_true_eq,
    ← Nat.dvd_iff_mod_eq_zero]
  exact and_iff_right_of_imp fun h => Nat.lt_succ_of_le ((Nat.le_add_right a p).trans h.2)

private theorem anchors_core (nb : Int → Int → Int → Int) (mul : Int → Int → Int) (dim p s : Nat)
    (hs : 0 < s)
    (hnb : ∀ i : Nat, (i : Int) < nb dim p s ↔ i * s + p ≤ dim)
    (hmul : ∀ i : Nat, mul (Int.ofNat i) (Int.ofNat s) = Int.ofNat (i * s)) :
    anchorsOf nb mul dim p s = (specAnchors dim p s).map Int.ofNat := by
  unfold anchorsOf
  refine (List.map_congr_left fun i _ => hmul i).trans
    ((List.map_map (g := Int.ofNat) (f := (· * s))).symm.trans ?_)
  congr 1
  -- both lists are strictly increasing, so it is enough that they have the same members
  apply List.Pairwise.eq_of_mem_iff (r := (· < ·))
  · rw [List.pairwise_map]
    exact List.Pairwise.imp (fun {a b} h => Nat.mul_lt_mul_of_pos_right h hs) List.pairwise_lt_range
  · exact List.Pairwise.filter _ List.pairwise_lt_range
  · intro a
    rw [mem_specAnchors, List.mem_map]
    constructor
    · rintro ⟨i, hi, rfl⟩
      exact ⟨Nat.dvd_mul_left s i, (hnb i).mp (Int.lt_toNat.mp (List.mem_range.mp hi))⟩
    · rintro ⟨⟨i, rfl⟩, hle⟩
      exact ⟨i, List.mem_range.mpr (Int.lt_toNat.mpr ((hnb i).mpr (Nat.mul_comm s i ▸ hle))), Nat.mul_comm i s⟩

private theorem nb_spec (dim p s i : Nat) (hs : 0 < s) :
    ((i : Int) < (-(Int.fdiv (-(((dim : Int) - (p : Int)) + (1 : Int))) (s : Int)))) ↔ i * s + p ≤ dim := by
  rw [lt_ceil_iff _ _ _ (by exact_mod_cast hs)]
  omega

/-- **Anchors (tabular)** — the anchors produced by the source's `ceil` expression are exactly the
    multiples of the stride whose patch lies fully inside the input. This theorem is about the
    GENERATED defs: it stops compiling if the source arithmetic changes meaning. -/
theorem occl_anchors_spec_tab (dim p s : Nat) (hs : 0 < s) :
    anchorsTab dim p s = (specAnchors dim p s).map Int.ofNat :=
  anchors_core _ _ dim p s hs (fun i => by unfold Gen.occlNbAnchorsTab; exact nb_spec dim p s i hs)
    (fun i => by simp [Gen.occlAnchorTab])

theorem occl_anchors_spec_x (dim p s : Nat) (hs : 0 < s) :
    anchorsX dim p s = (specAnchors dim p s).map Int.ofNat :=
  anchors_core _ _ dim p s hs (fun i => by unfold Gen.occlNbAnchorsX; exact nb_spec dim p s i hs)
    (fun i => by simp [Gen.occlAnchorX])

theorem occl_anchors_spec_y (dim p s : Nat) (hs : 0 < s) :
    anchorsY dim p s = (specAnchors dim p s).map Int.ofNat :=
  anchors_core _ _ dim p s hs (fun i => by unfold Gen.occlNbAnchorsY; exact nb_spec dim p s i hs)
    (fun i => by simp [Gen.occlAnchorY])

theorem occl_anchor_mem (dim p s a : Nat) (hs : 0 < s) :
    (a : Int) ∈ anchorsTab dim p s ↔ s ∣ a ∧ a + p ≤ dim := by
  rw [occl_anchors_spec_tab dim p s hs, ← mem_specAnchors]
  exact List.mem_map_of_injective Int.ofNat_injective

private theorem inSlice_ofNat (a p i : Nat) : inSlice (Int.ofNat a) p i = (decide (a ≤ i) && decide (i < a + p)) := by
  unfold inSlice
  rw [Bool.eq_iff_iff]
  simp only [Bool.and_eq_true, decide_eq_true_eq, Int.ofNat_eq_natCast]
  constructor
  · rintro ⟨h1, h2⟩
    exact ⟨by omega, by omega⟩
  · rintro ⟨h1, h2⟩
    exact ⟨by omega, by omega⟩

def Geom.StridePos : Geom → Prop
  | .tab _ _ s => 0 < s
  | .two _ _ _ _ _ sa sb => 0 < sa ∧ 0 < sb

/-- **Masks** — the list of masks built by `_get_masks` (order included) is the reference list. -/
theorem occl_masks_eq_spec (g : Geom) (hs : g.StridePos) : masks g = specMasks g := by
  cases g with
  | tab w p s =>
    simp only [masks, specMasks]
    rw [occl_anchors_spec_tab w p s hs, List.map_map]
    apply List.map_congr_left; intro a _
    apply List.map_congr_left; intro i _
    exact inSlice_ofNat a p i
  | two a b c pa pb sa sb =>
    simp only [masks, specMasks]
    rw [occl_anchors_spec_x a pa sa hs.1, occl_anchors_spec_y b pb sb hs.2]
    simp only [List.flatMap_map, List.map_map]
    apply List.flatMap_congr; intro ax _
    apply List.map_congr_left; intro ay _
    apply List.map_congr_left; intro k _
    simp only [inSlice_ofNat]

/-- **Refinement, one input** — accumulating the sensitivities chunk by chunk (any chunk size
    `b ≥ 1`) gives, for every feature cell, the sum over the patches covering it of
    `score(x) − score(x occluded)`. -/
theorem occl_one_eq_spec (g : Geom) (hs : g.StridePos) (f : List Rat → Rat) (v : Rat) (b : Nat)
    (hb : 0 < b) (x : List Rat) : explainOne g f v b x = specOne g f v x := by
  rw [explainOne_eq_sum g f v b hb, occl_masks_eq_spec g hs]
  apply List.map_congr_left; intro k _
  exact sumQ_indicator (specMasks g) (fun m => m.getD k false) (fun m => f x - f (occlude g x m v))

theorem explainOne_getD (g : Geom) (hs : g.StridePos) (f : List Rat → Rat) (v : Rat) (b : Nat) (hb : 0 < b)
    (x : List Rat) {k : Nat} (hk : k < g.nfeat) :
    (explainOne g f v b x).getD k 0
      = sumQ ((specMasks g).map fun m => (f x - f (occlude g x m v)) * (if m.getD k false then 1 else 0)) := by
  rw [explainOne_eq_sum g f v b hb x, getD_range_map _ _ _ hk, occl_masks_eq_spec g hs]

/-- **C06 main theorem** — `Occlusion.explain` (model) equals the reference definition for every
    geometry, occlusion value, score function, inputs, targets and every batch size
    (`none` or any positive integer). -/
theorem occl_impl_eq_spec (g : Geom) (hs : g.StridePos) (f : List Rat → List Rat → Rat) (v : Rat)
    (bs : Option Nat) (hbs : ∀ b, bs = some b → 0 < b) (xs ys : List (List Rat)) :
    explain g f v bs xs ys = List.zipWith (fun x y => specOne g (fun z => f z y) v x) xs ys :=
  explain_eq_zipWith g f v bs hbs xs ys (fun f' x => specOne g f' v x) fun f' b x hb =>
    occl_one_eq_spec g hs f' v b hb x

theorem occl_bs_indep (g : Geom) (hs : g.StridePos) (f : List Rat → List Rat → Rat) (v : Rat)
    (b : Nat) (hb : 0 < b) (xs ys : List (List Rat)) :
    explain g f v (some b) xs ys = explain g f v none xs ys :=
  explain_bs_indep g f v b hb xs ys

theorem occl_shape (g : Geom) (f : List Rat → Rat) (v : Rat) (x : List Rat) :
    (specOne g f v x).length = g.nfeat := by
  simp [specOne]

/-- no chunk handed to the model exceeds the batch size -/
theorem occl_calls_le_bs (g : Geom) (b : Nat) : ∀ c ∈ batches b (masks g), c.length ≤ b :=
  fun c hc => (batch_len_le b (masks g) c hc).1

-- non-vacuity
example : (Geom.two 3 4 2 2 3 1 2).StridePos := ⟨by decide, by decide⟩
example : specAnchors 7 3 2 = [0, 2, 4] := by decide
example : explainOne (.tab 4 2 1) (fun x => x.getD 1 0 * x.getD 2 0) 0 2 [1, 2, 3, 4] = [6, 12, 12, 6] := by
  decide +kernel

end Xp.Occl
