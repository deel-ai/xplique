/-
  C04 — Integrated Gradients: straight path, trapezoid, completeness.

  `IG.igImpl` is the executable model of `IntegratedGradients.explain` (the number of inputs per
  batch is GENERATED from the source); `IG.specOne` is the reference definition of the property:
  `(x − baseline) ·` trapezoidal average of the score gradients at the `steps` equally spaced
  points of the segment from the constant baseline to `x`.  `g` (the gradient of the explained
  score as delivered by TensorFlow autodiff) is a parameter.
-/
import XpModel.IG
import XpProofs.Lemmas.IG
import XpProofs.Lemmas.IGSmooth
import XpProofs.Lemmas.FinsetSum

namespace Xp.IG

theorem ig_inputs_per_batch_spec (b steps : Nat) :
    (Gen.igInputsPerBatch (b : Int) (steps : Int)).toNat = max (b / steps) 1 := by
  rw [Gen.igInputsPerBatch, ← Int.ofNat_fdiv, ← Nat.cast_one, ← Nat.cast_max, Int.toNat_natCast]

theorem ig_default_bs_spec (n : Nat) : (Gen.igDefaultBs (n : Int)).toNat = n :=
  Int.toNat_natCast n

private theorem effBs_eq (bs : Option Nat) (n : Nat) : effBs bs n = (effBatch bs n : Nat) := by
  cases bs <;> rfl

private theorem perBatch_eq (bs : Option Nat) (steps n : Nat) : perBatch bs steps n = max (effBatch bs n / steps) 1 := by
  rw [perBatch, effBs_eq, ig_inputs_per_batch_spec]

/-- "batch_size only bounds memory": one batch never holds more than `max(batch_size, steps)`
    interpolated points (one whole path when `batch_size < steps`) -/
theorem ig_points_per_batch_le (b steps n : Nat) : perBatch (some b) steps n * steps ≤ max b steps := by
  rw [perBatch_eq, ← Nat.mul_max_mul_right, Nat.one_mul]
  exact max_le_max (Nat.div_mul_le_self b steps) (Nat.le_refl _)

/-- the path starts at the baseline and ends at the input (end points included) -/
theorem ig_endpoints (steps : Nat) (hs : 2 ≤ steps) (b : Rat) (x : Vec) :
    interp steps b x 0 = x.map (fun _ => b) ∧ interp steps b x (steps - 1) = x := by
  constructor
  · rw [interp, alpha_zero]
    exact List.map_congr_left fun xi _ => by rw [zero_mul, add_zero]
  · rw [interp, alpha_last steps hs]
    exact (List.map_congr_left fun xi _ => by rw [one_mul, add_sub_cancel]).trans (List.map_id' x)

/-- the nodes are equally spaced: consecutive points differ by `(x − b) / (steps − 1)` -/
theorem ig_equally_spaced (steps : Nat) (b : Rat) (x : Vec) (j : Nat) :
    List.zipWith (· - ·) (interp steps b x (j + 1)) (interp steps b x j)
      = x.map fun xi => (xi - b) / ((steps : Rat) - 1) := by
  rw [interp, interp, zipWith_map_map_self, alpha_succ]
  exact List.map_congr_left fun xi _ => by ring

/-- `repeat_labels` is aligned with the interpolation order: every point of the path of input
    `x_n` is evaluated with the target `y_n` -/
theorem ig_labels_aligned (steps : Nat) (b : Rat) (batch : List (Vec × Vec)) :
    (pathPoints steps b (batch.map (·.1))).zip (repeatEach steps (batch.map (·.2)))
      = batch.flatMap fun xy => (List.range steps).map fun j => (interp steps b xy.1 j, xy.2) := by
  rw [pathPoints, List.flatMap_map,
    zip_flatMap_repeatEach steps (fun xy : Vec × Vec => (List.range steps).map (interp steps b xy.1))
      (fun xy => xy.2) batch (fun _ _ => by rw [List.length_map, List.length_range])]
  simp only [List.map_map]; rfl

private theorem one_eq_spec (g : Vec → Vec → Vec) (steps : Nat) (hs : 1 ≤ steps) (b : Rat) (x y : Vec) :
    vmul (x.map (· - b)) (trapzVec x.length ((List.range steps).map fun j => g (interp steps b x j) y))
      = specOne g steps b x y := by
  rw [specOne_flat, vmul, trapzVec_range, map_eq_range_getD x (· - b), zipWith_map_map_self, Nat.cast_pred hs]
  exact List.map_congr_left fun d _ => by rw [mul_one_div]

/-- **C04 main theorem** — for every batch size (`none` or positive, including
    `batch_size < steps`), every `steps ≥ 2`, baseline value, number of inputs and dimension, the
    model of `IntegratedGradients.explain` returns for each input `(x − b) ·` the trapezoidal
    average of the gradients at the `steps` equally spaced points of the segment from the baseline
    to `x` (`igSpec = zipWith specOne`: also the per-sample statement used by C03). -/
theorem ig_impl_eq_spec (op : GradOp) (g : Vec → Vec → Vec) (hop : PerSample op g) (steps : Nat)
    (hs : 2 ≤ steps) (b : Rat) (bs : Option Nat) (hbs : ∀ b', bs = some b' → 0 < b') (xs ys : List Vec) :
    igImpl op steps b bs xs ys = some (igSpec g steps b xs ys) := by
  rw [igImpl, if_neg (Nat.not_lt.mpr hs), igSpec]
  by_cases hx : xs = []
  · rw [hx, List.zip_nil_left, batches_nil]; rfl
  · have hb : 0 < (effBs bs xs.length).toNat := by
      rw [effBs_eq, Int.toNat_natCast]; exact effBatch_pos bs hbs _ (List.length_pos_iff.mpr hx)
    have hpb : 0 < perBatch bs steps xs.length := by
      rw [perBatch_eq]; exact Nat.lt_of_lt_of_le Nat.one_pos (Nat.le_max_right ..)
    dsimp only
    rw [List.flatMap_congr fun ch _ => batchRun_eq op g hop steps b _ hb (Nat.lt_of_succ_lt hs) ch,
      flatMap_batches_map _ hpb, List.zip_eq_zipWith, List.map_zipWith]
    exact congrArg (fun f => some (List.zipWith f xs ys))
      (funext₂ fun x y => one_eq_spec g steps (Nat.le_of_succ_le hs) b x y)

theorem ig_per_sample (op : GradOp) (g : Vec → Vec → Vec) (hop : PerSample op g) (steps : Nat)
    (hs : 2 ≤ steps) (b : Rat) (bs : Option Nat) (hbs : ∀ b', bs = some b' → 0 < b') (xs ys : List Vec) :
    igImpl op steps b bs xs ys = some (List.zipWith (specOne g steps b) xs ys) :=
  ig_impl_eq_spec op g hop steps hs b bs hbs xs ys

/-- **batch-size independence**, in particular for `batch_size < steps` -/
theorem ig_bs_indep (op : GradOp) (g : Vec → Vec → Vec) (hop : PerSample op g) (steps : Nat)
    (hs : 2 ≤ steps) (b : Rat) (b' : Nat) (hb : 0 < b') (xs ys : List Vec) :
    igImpl op steps b (some b') xs ys = igImpl op steps b none xs ys :=
  bs_indep_of_spec (igImpl op steps b · xs ys) _ (fun bs hbs => ig_impl_eq_spec op g hop steps hs b bs hbs xs ys) hb

/-- `steps < 2`: the mean over zero trapezoids is undefined (NaN in the code) -/
theorem ig_steps_lt_two_undefined (op : GradOp) (steps : Nat) (hs : steps < 2) (b : Rat) (bs : Option Nat)
    (xs ys : List Vec) : igImpl op steps b bs xs ys = none := by
  rw [igImpl, if_pos hs]

open Finset

/-- the attributions of one input sum to the trapezoid rule applied to the directional
    derivative `j ↦ ⟨x − b, g(point_j)⟩` (any gradient function) -/
theorem ig_sum_eq_trapz (g : Vec → Vec → Vec) (steps : Nat) (b : Rat) (x y : Vec) :
    sumQ (specOne g steps b x y)
      = (∑ j ∈ range (steps - 1), (dirDeriv g steps b x y j + dirDeriv g steps b x y (j + 1)))
          / ((steps : Rat) - 1) / 2 := by
  rw [specOne_flat]
  unfold dirDeriv
  -- both sides as double sums `Σ Σ (x_d − b) · g_j[d]` over one common denominator; they differ in the order of `Σ_d`, `Σ_j`
  simp only [sumQ_range, mul_div_assoc', mul_sum, mul_add, ← sum_div, ← sum_add_distrib]
  rw [sum_comm]

/-- **cubic gap formula** (what is proved of "the gap shrinks as steps grows": polynomials of
    degree ≤ 3 along the path; general smooth models need real analysis and are NOT covered) —
    if `φ(t) = a₃ t³ + a t² + c t + d` then the completeness gap is exactly
    `a₃ / (2 (steps − 1)²)`. -/
theorem ig_gap_cubic_partial (g : Vec → Vec → Vec) (steps : Nat) (hs : 2 ≤ steps) (b : Rat) (x y : Vec)
    (φ : Rat → Rat) (a3 a c d0 : Rat) (hφ : ∀ t, φ t = a3 * t ^ 3 + a * t ^ 2 + c * t + d0)
    (hdir : ∀ j, j < steps →
      dirDeriv g steps b x y j = 3 * a3 * alpha steps j ^ 2 + 2 * a * alpha steps j + c) :
    sumQ (specOne g steps b x y) - (φ 1 - φ 0) = a3 / (2 * ((steps : Rat) - 1) ^ 2) := by
  have hne : (steps : ℚ) - 1 ≠ 0 := sub_ne_zero.mpr (Nat.cast_ne_one.mpr (Nat.ne_of_gt hs))
  -- every panel overshoots `φ (α_{j+1}) − φ (α_j)` by `a₃ h³ / 2`, `h = 1 / (steps − 1)`; written as
  -- `gap / (steps − 1)` so that the `steps − 1` panels add up to the gap by cancellation alone
  rw [ig_sum_eq_trapz, trapz_telescope _ (fun j => φ (alpha steps j)) _
      (a3 / (2 * ((steps : ℚ) - 1) ^ 2) / ((steps : ℚ) - 1)),
    alpha_last steps hs, alpha_zero, Nat.cast_pred (Nat.lt_of_succ_lt hs), add_sub_cancel_left, mul_comm,
    div_mul_cancel₀ _ hne]
  intro j hj
  rw [hdir j (Nat.lt_of_lt_pred hj), hdir (j + 1) (Nat.add_lt_of_lt_sub hj), hφ, hφ, alpha_succ]
  -- `ring` inverts a product only when its factors are atoms
  generalize (steps : ℚ) - 1 = w
  ring

/-- **completeness for scores at most quadratic along the path** — if `φ(t) = score(b + t(x−b))`
    is `a t² + c t + d`, i.e. the directional derivative at node `j` is `φ'(α_j) = 2 a α_j + c`,
    then the attributions sum to `φ 1 − φ 0 = score(x) − score(baseline)` EXACTLY, for every
    `steps ≥ 2`. -/
theorem ig_complete_quadratic (g : Vec → Vec → Vec) (steps : Nat) (hs : 2 ≤ steps) (b : Rat) (x y : Vec)
    (φ : Rat → Rat) (a c d0 : Rat) (hφ : ∀ t, φ t = a * t ^ 2 + c * t + d0)
    (hdir : ∀ j, j < steps → dirDeriv g steps b x y j = 2 * a * alpha steps j + c) :
    sumQ (specOne g steps b x y) = φ 1 - φ 0 := by
  have h := ig_gap_cubic_partial g steps hs b x y φ 0 a c d0 (fun t => by rw [hφ]; ring)
    (fun j hj => by rw [hdir j hj]; ring)
  rwa [zero_div, sub_eq_zero] at h

/-- for a cubic the absolute gap strictly decreases when `steps` grows -/
theorem ig_gap_cubic_strict_anti (a3 : Rat) (h3 : a3 ≠ 0) (s1 s2 : Nat) (h1 : 2 ≤ s1) (h12 : s1 < s2) :
    |a3 / (2 * ((s2 : Rat) - 1) ^ 2)| < |a3 / (2 * ((s1 : Rat) - 1) ^ 2)| := by
  have ht1 : (0 : Rat) < (s1 : Rat) - 1 := sub_pos.mpr (Nat.one_lt_cast.mpr h1)
  have ht12 : (s1 : Rat) - 1 < (s2 : Rat) - 1 := sub_lt_sub_right (Nat.cast_lt.mpr h12) 1
  have hden1 : (0 : Rat) < 2 * ((s1 : Rat) - 1) ^ 2 := mul_pos two_pos (pow_pos ht1 2)
  have hden2 : (0 : Rat) < 2 * ((s2 : Rat) - 1) ^ 2 := mul_pos two_pos (pow_pos (ht1.trans ht12) 2)
  rw [abs_div, abs_div, abs_of_pos hden1, abs_of_pos hden2]
  exact div_lt_div_of_pos_left (abs_pos.mpr h3) hden1
    (mul_lt_mul_of_pos_left (pow_lt_pow_left₀ ht12 ht1.le two_ne_zero) two_pos)

/-! ### smooth models: the completeness gap is O(1/(steps−1)²) and vanishes as `steps` grows

  The clause "for smooth models the completeness gap shrinks as steps grows" at full strength: `ψ` is the derivative of the
  score along the straight path (a C² real function on [0,1], i.e. the score is C³ along the path), `K` bounds `|ψ''|`.
  The rational model is related to the reals through the casts; the analysis is Mathlib's trapezoidal-rule error bound. -/

theorem ig_gap_smooth (g : Vec → Vec → Vec) (steps : Nat) (hs : 2 ≤ steps) (b : Rat) (x y : Vec)
    (ψ : ℝ → ℝ) (hc : ContDiffOn ℝ 2 ψ (Set.uIcc (0 : ℝ) 1)) (K : ℝ)
    (hK : ∀ t, |iteratedDerivWithin 2 ψ (Set.uIcc (0 : ℝ) 1) t| ≤ K)
    (hdir : ∀ j, j < steps → ((dirDeriv g steps b x y j : ℚ) : ℝ) = ψ ((alpha steps j : ℚ) : ℝ)) :
    |((sumQ (specOne g steps b x y) : ℚ) : ℝ) - ∫ t in (0 : ℝ)..1, ψ t|
      ≤ K / (12 * ((steps : ℝ) - 1) ^ 2) := by
  have hw : ((steps : ℝ) - 1) = ((steps - 1 : ℕ) : ℝ) := (Nat.cast_pred (Nat.lt_of_succ_lt hs)).symm
  rw [ig_sum_eq_trapz, Rat.cast_div, Rat.cast_div, Rat.cast_sum, Rat.cast_sub, Rat.cast_natCast, Rat.cast_one,
    Rat.cast_ofNat, hw]
  simp only [Rat.cast_add]
  refine Xp.IGSmooth.trapz_gap_real ψ (steps - 1) (Nat.sub_pos_of_lt hs)
    (fun j => ((dirDeriv g steps b x y j : ℚ) : ℝ)) (fun j hj => ?_) hc K hK
  rw [hdir j (Nat.lt_of_le_pred (Nat.lt_of_succ_lt hs) hj), alpha, Rat.cast_div, Rat.cast_sub, Rat.cast_natCast,
    Rat.cast_natCast, Rat.cast_one, hw]

/-- completeness for smooth models: with `ψ = φ'` the derivative of the score along the path, the attributions sum to
    `φ 1 − φ 0 = score(x) − score(baseline)` up to `K / (12 (steps−1)²)`, `K` a bound on `|ψ''| = |φ'''|` on the path -/
theorem ig_gap_smooth_completeness (g : Vec → Vec → Vec) (steps : Nat) (hs : 2 ≤ steps) (b : Rat) (x y : Vec)
    (φ ψ : ℝ → ℝ) (hφ : ∀ t ∈ Set.uIcc (0 : ℝ) 1, HasDerivAt φ (ψ t) t)
    (hc : ContDiffOn ℝ 2 ψ (Set.uIcc (0 : ℝ) 1)) (K : ℝ)
    (hK : ∀ t, |iteratedDerivWithin 2 ψ (Set.uIcc (0 : ℝ) 1) t| ≤ K)
    (hdir : ∀ j, j < steps → ((dirDeriv g steps b x y j : ℚ) : ℝ) = ψ ((alpha steps j : ℚ) : ℝ)) :
    |((sumQ (specOne g steps b x y) : ℚ) : ℝ) - (φ 1 - φ 0)| ≤ K / (12 * ((steps : ℝ) - 1) ^ 2) := by
  rw [← intervalIntegral.integral_eq_sub_of_hasDerivAt hφ (hc.continuousOn.intervalIntegrable)]
  exact ig_gap_smooth g steps hs b x y ψ hc K hK hdir

/-- the bound vanishes as `steps` grows -/
theorem ig_gap_bound_vanishes (K ε : ℝ) (hε : 0 < ε) :
    ∃ S : ℕ, ∀ steps : ℕ, S ≤ steps → K / (12 * ((steps : ℝ) - 1) ^ 2) < ε := by
  -- the bound tends to 0: a constant over `12 (steps − 1)²`, which tends to infinity
  have hlim : Filter.Tendsto (fun steps : ℕ => K / (12 * ((steps : ℝ) - 1) ^ 2)) Filter.atTop (nhds 0) :=
    tendsto_const_nhds.div_atTop (Filter.Tendsto.const_mul_atTop (by norm_num)
      ((Filter.tendsto_pow_atTop two_ne_zero).comp
        (Filter.tendsto_atTop_add_const_right _ (-1) tendsto_natCast_atTop_atTop)))
  exact Filter.eventually_atTop.mp (hlim.eventually (Iio_mem_nhds hε))

private theorem interp_scale (steps : Nat) (b s : Rat) (hs : s ≠ 0) (x : Vec) (j : Nat) :
    (interp steps (b * s) (x.map (· * s)) j).map (· / s) = interp steps b x j := by
  rw [interp, interp, List.map_map, List.map_map]
  apply List.map_congr_left; intro xi _
  show (b * s + alpha steps j * (xi * s - b * s)) / s = b + alpha steps j * (xi - b)
  rw [← sub_mul, ← mul_assoc, ← add_mul, mul_div_cancel_right₀ _ hs]

/-- scale covariance: explaining the score `p ↦ S(p / s)` (gradient `(1/s) ∇S(p / s)`) at the input `x·s` with the baseline
    `b·s` gives exactly the attributions of `S` at `x` with baseline `b`, for every `s ≠ 0` however small or large: the
    attribution is `(x − baseline) ·` trapezoid at every magnitude of the inputs (no threshold below which a feature counts as
    equal to the baseline) -/
theorem ig_scale_covariant (g : Vec → Vec → Vec) (steps : Nat) (b s : Rat) (hs : s ≠ 0) (x y : Vec) :
    specOne (fun p t => (g (p.map (· / s)) t).map (· / s)) steps (b * s) (x.map (· * s)) y = specOne g steps b x y := by
  rw [specOne_flat, specOne_flat, List.length_map]
  apply List.map_congr_left; intro d _
  simp only [interp_scale steps b s hs, getD_map_zero (· / s) (zero_div s), getD_map_zero (· * s) (zero_mul s),
    ← add_div]
  -- now `(x_d − b) · s · (Σ / s / (steps − 1) / 2)`: the scale of the displacement cancels that of the gradients
  rw [sumQ_map_div, ← sub_mul, div_right_comm _ s, div_right_comm _ s, mul_assoc, mul_comm s,
    div_mul_cancel₀ _ hs]

/-! ### non-vacuity -/

/-- the test vector of the examples below: score `Σ x_d²` (gradient `2x`), baseline `1`, `x = (1, 3)` -/
private theorem dirDeriv_example (steps j : Nat) :
    dirDeriv (fun p _ => p.map (2 * ·)) steps 1 [1, 3] [] j = 8 * alpha steps j + 4 := by
  show (1 - 1) * (2 * (1 + alpha steps j * (1 - 1))) + ((3 - 1) * (2 * (1 + alpha steps j * (3 - 1))) + 0) = _
  ring

-- scale covariance on a concrete score (Σ x_d², s = 2^-10): same attributions as at scale one
example : specOne (fun p t => ((fun q _ => q.map (2 * ·)) (p.map (· / (1 / 1024))) t).map (· / (1 / 1024))) 3
      (1 * (1 / 1024)) ([1, 3].map (· * (1 / 1024))) []
    = specOne (fun q _ => q.map (2 * ·)) 3 1 [1, 3] [] := by decide +kernel

-- a non-constant C² derivative along the path (score Σ x_d², ψ(t) = 8t + 4, K = 0) meets the hypotheses of `ig_gap_smooth`
example : ∃ (ψ : ℝ → ℝ) (K : ℝ), ContDiffOn ℝ 2 ψ (Set.uIcc (0 : ℝ) 1)
    ∧ (∀ t, |iteratedDerivWithin 2 ψ (Set.uIcc (0 : ℝ) 1) t| ≤ K)
    ∧ ∀ j, j < 5 → ((dirDeriv (fun p _ => p.map (2 * ·)) 5 1 [1, 3] [] j : ℚ) : ℝ) = ψ ((alpha 5 j : ℚ) : ℝ) := by
  refine ⟨fun t => 8 * t + 4, 0, by fun_prop, ?_, ?_⟩
  · intro t
    by_cases ht : t ∈ Set.uIcc (0 : ℝ) 1
    · have hu : UniqueDiffOn ℝ (Set.uIcc (0 : ℝ) 1) := uniqueDiffOn_uIcc (by norm_num)
      rw [iteratedDerivWithin_eq_iteratedDeriv hu (by fun_prop) ht]
      simp [iteratedDeriv_succ]
    · rw [iteratedDerivWithin_succ, derivWithin_zero_of_notMem_closure (by rwa [Set.uIcc, closure_Icc])]
      simp
  · intro j _
    rw [dirDeriv_example]
    push_cast; rfl

-- score Σ x_d² (gradient 2x), baseline 1, x = (1, 3): φ(t) = 4 t² + 4 t + 2 along the path
example : ∀ j, j < 5 → dirDeriv (fun p _ => p.map (2 * ·)) 5 1 [1, 3] [] j = 2 * 4 * alpha 5 j + 4 := by
  intro j _
  rw [dirDeriv_example]; norm_num
example : sumQ (specOne (fun p _ => p.map (2 * ·)) 5 1 [1, 3] []) = (4 * 1 ^ 2 + 4 * 1 + 2) - 2 := by
  decide +kernel
example : igImpl (gradMap fun p _ => p.map (2 * ·)) 3 1 (some 2) [[1, 3], [0, 2]] [[], []]
    = some [[0, 8], [-1, 3]] := by decide +kernel
example : (Gen.igInputsPerBatch 2 3).toNat = 1 ∧ (Gen.igInputsPerBatch 7 3).toNat = 2 := by decide

end Xp.IG
