/-
  C15 — MuFidelity and AverageStability measure what they document, within their bounds.

  `MuFid.pairsImpl` models `MuFidelity.evaluate` up to the correlation (batch / chunk arithmetic
  GENERATED from the source, subset masks = the observed draws); `pairsOne` / `pairsSpec` are the
  reference; Spearman's ρ is handled as the rank-covariance triple `(cov, var_x, var_y)` of the
  average ranks (ρ = cov / √(var_x·var_y); the square root is never needed for the statements).
  `stabImpl` models `AverageStability.evaluate`.

  Parameters standing for library behaviour: `op` per-sample (`hop`); the masks drawn by
  `_perturb_samples` (`draws`, binary where stated); `scipy.stats.spearmanr` = Pearson correlation
  of average ranks (cross-checked by the harness on every case); the explainer and the distance
  of AverageStability.
-/
import XpModel.MuFidelity
import XpProofs.Lemmas.Batching
import XpProofs.Lemmas.Vec
import XpProofs.Lemmas.MuFidelity
import Mathlib.Tactic.Linarith

namespace Xp.MuFid

/-- the GENERATED `__init__` expressions: `pbs = min(bs, nb)`, `ibs = max(1, bs // pbs)`; one pass of
    the inner loop never holds more than `batch_size` degraded inputs -/
theorem mufid_batch_arith (bsEff nb : Nat) (hb : 0 < bsEff) (hn : 0 < nb) :
    pbsOf bsEff nb = min bsEff nb ∧ ibsOf bsEff nb = max 1 (bsEff / min bsEff nb) ∧
    0 < pbsOf bsEff nb ∧ 0 < ibsOf bsEff nb ∧ ibsOf bsEff nb * pbsOf bsEff nb ≤ bsEff := by
  have h1 : pbsOf bsEff nb = min bsEff nb := by
    rw [pbsOf, mufPbs_nat, Int.toNat_natCast]
  have h2 : ibsOf bsEff nb = max 1 (bsEff / min bsEff nb) := by
    rw [ibsOf, mufPbs_nat, mufIbs_nat, Int.toNat_natCast]
  have hpos : 0 < min bsEff nb := Nat.lt_min.mpr ⟨hb, hn⟩
  have hge : 1 ≤ bsEff / min bsEff nb := (Nat.one_le_div_iff hpos).mpr (Nat.min_le_left _ _)
  rw [h1, h2, Nat.max_eq_right hge]
  exact ⟨rfl, rfl, hpos, hge, Nat.div_mul_le_self _ _⟩

/-- the `while` loop (GENERATED chunk expression) performs, for every batch size,
    chunks of between 1 and `pbs` perturbations whose sizes add up to exactly `nb_samples` -/
theorem mufid_nb (bsEff nb : Nat) (hb : 0 < bsEff) (hn : 0 < nb) :
    chunksOf bsEff nb = chunkSizes (min bsEff nb) nb ∧ (chunksOf bsEff nb).sum = nb ∧
    ∀ c ∈ chunksOf bsEff nb, 0 < c ∧ c ≤ min bsEff nb := by
  have hp : 0 < min bsEff nb := Nat.lt_min.mpr ⟨hb, hn⟩
  have h1 : chunksOf bsEff nb = chunkSizes (min bsEff nb) nb := by
    rw [chunksOf, mufPbs_nat]
    exact chunkLoop_eq (min bsEff nb) nb hp nb 0 (Nat.sub_le nb 0)
  rw [h1]
  exact ⟨rfl, chunkSizes_sum _ _ hp, chunkSizes_le _ _⟩

/-- one pass of the inner loop: the reshape to `(n, nbp)` puts the prediction of sample `i` under
    mask `j` at `[i][j]`, next to the attribution sum of sample `i` over mask `j` -/
theorem chunkStep_spec (g : Geo) (op : List (List Rat × List Rat) → List Rat) (f : List Rat → List Rat → Rat)
    (hop : ∀ b, op b = b.map fun p => f p.1 p.2) (bs : Option Nat) (hbs : ∀ b, bs = some b → 0 < b)
    (batch : List (Sample × Rat)) (masks : List (List Rat)) (hm : masks ≠ []) :
    chunkStep g op bs batch masks
      = batch.map fun sb => masks.map fun m =>
          (sb.2 - f (degrade g.c sb.1.x sb.1.base m) sb.1.y, attrOf g.cp sb.1.phi m) := by
  unfold chunkStep
  simp only
  rw [batched_eq_map op (fun p => f p.1 p.2) hop bs hbs, List.map_flatMap, regroup,
    batches_flatMap_uniform masks.length (List.length_pos_iff.mpr hm) _ batch
      (fun _ _ => by rw [List.length_map, List.length_map]),
    zipWith_map_right_self]
  apply List.map_congr_left
  intro sb _
  rw [List.map_map, zipWith_map_left_self]
  rfl

/-- one input batch: the passes over its chunks, accumulated by `concat(axis=1)`, give every sample of the
    batch its pairs over all the masks drawn for the batch -/
private theorem batchLoop_spec (g : Geo) (op : List (List Rat × List Rat) → List Rat) (f : List Rat → List Rat → Rat)
    (hop : ∀ b, op b = b.map fun p => f p.1 p.2) (bs : Option Nat) (hbs : ∀ b, bs = some b → 0 < b)
    (batch : List Sample) (chunks : List (List (List Rat))) (hd : ∀ ms ∈ chunks, ms ≠ []) :
    chunks.foldl (fun acc ms => List.zipWith (· ++ ·) acc (chunkStep g op bs (batch.map fun s => (s, f s.x s.y)) ms))
        ((batch.map fun s => (s, f s.x s.y)).map fun _ => [])
      = batch.map fun s => pairsOne g f s chunks.flatten := by
  rw [List.foldl_ext _ _ _ fun acc ms hms => by rw [chunkStep_spec g op f hop bs hbs _ ms (hd ms hms)],
    foldl_concat_rows, List.map_map]
  rfl

/-- for every batch size (also below `nb_samples`, where the perturbations
    of a sample are spread over several chunks) the `(pred, attr)` pairs correlated for a sample are
    exactly those of the masks drawn for its input batch, applied to THAT sample: its own score
    drop against its own attributions summed over the masked-out subset. -/
theorem mufid_dataflow (g : Geo) (op : List (List Rat × List Rat) → List Rat) (f : List Rat → List Rat → Rat)
    (hop : ∀ b, op b = b.map fun p => f p.1 p.2) (bs : Option Nat) (nb : Nat) (ss : List Sample)
    (hE : 0 < effBs bs ss.length nb)
    (draws : List (List (List (List Rat)))) (hd : ∀ chunks ∈ draws, ∀ ms ∈ chunks, ms ≠ []) :
    pairsImpl g op bs nb ss draws = pairsSpec g f (ibsOf (effBs bs ss.length nb) nb) ss draws := by
  unfold pairsImpl pairsSpec
  simp only
  have hbs := bsPos_some hE
  rw [batched_eq_map op (fun p => f p.1 p.2) hop _ hbs, List.map_map, List.zip_eq_zipWith, zipWith_map_right_self,
    batches_map, List.zipWith_map_left]
  congr 1
  exact zipWith_congr_zip fun p hp => batchLoop_spec g op f hop _ hbs p.1 p.2 (hd p.2 (List.of_mem_zip hp).2)

theorem pairsSpec_same_masks (g : Geo) (f : List Rat → List Rat → Rat) (ibs : Nat) (hi : 0 < ibs)
    (ss : List Sample) (draws : List (List (List (List Rat)))) (ms : List (List Rat))
    (hlen : draws.length = (batches ibs ss).length) (hsame : ∀ chunks ∈ draws, chunks.flatten = ms) :
    pairsSpec g f ibs ss draws = ss.map fun s => pairsOne g f s ms := by
  unfold pairsSpec
  -- every input batch sees `ms`; the draws only fix how many batches are kept, and that is all of them
  rw [← List.map_uncurry_zip_eq_zipWith,
    List.map_congr_left (g := (List.map fun s => pairsOne g f s ms) ∘ Prod.fst)
      fun p hp => by rw [Function.uncurry, hsame p.2 (List.of_mem_zip hp).2]; rfl,
    ← List.map_map, List.map_fst_zip (Nat.le_of_eq hlen.symm), ← List.map_flatten, flatten_batches ibs hi]

/-- given the same subset masks, the correlated pairs do not
    depend on the batch size: any `batch_size = b` whose draws amount, for every input batch, to the
    masks `ms`, yields what `batch_size = None` yields for the single draw `ms` (exported to C03). -/
theorem mufid_bs_indep (g : Geo) (op : List (List Rat × List Rat) → List Rat) (f : List Rat → List Rat → Rat)
    (hop : ∀ b, op b = b.map fun p => f p.1 p.2) (b nb : Nat) (hb : 0 < b) (hn : 0 < nb)
    (ss : List Sample) (hss : ss ≠ [])
    (draws : List (List (List (List Rat)))) (ms : List (List Rat)) (hms : ms ≠ [])
    (hd : ∀ chunks ∈ draws, ∀ m ∈ chunks, m ≠ [])
    (hlen : draws.length = (batches (ibsOf b nb) ss).length) (hsame : ∀ chunks ∈ draws, chunks.flatten = ms) :
    pairsImpl g op (some b) nb ss draws = pairsImpl g op none nb ss [[ms]] := by
  have hpos : 0 < ss.length := List.length_pos_iff.mpr hss
  have hE : 0 < effBs none ss.length nb := Nat.mul_pos hpos hn
  -- with `batch_size = None` there is one input batch holding every sample
  have hib : ibsOf (effBs none ss.length nb) nb = ss.length := by
    rw [(mufid_batch_arith _ nb hE hn).2.1, effBs_none, Nat.min_eq_right (Nat.le_mul_of_pos_left nb hpos),
      Nat.mul_div_cancel _ hn, Nat.max_eq_right hpos]
  rw [mufid_dataflow g op f hop (some b) nb ss hb draws hd,
    mufid_dataflow g op f hop none nb ss hE [[ms]] (by
      intro chunks hc m hm
      rw [List.mem_singleton.mp hc] at hm
      rw [List.mem_singleton.mp hm]; exact hms),
    pairsSpec_same_masks g f _ (mufid_batch_arith (effBs (some b) ss.length nb) nb hb hn).2.2.2.1 ss draws ms
      hlen hsame,
    pairsSpec_same_masks g f _ (mufid_batch_arith _ nb hE hn).2.2.2.1 ss [[ms]] ms
      (by rw [hib, batches_self ss hss]; rfl)
      (fun chunks hc => by rw [List.mem_singleton.mp hc]; exact List.append_nil ms)]

/-- Cauchy–Schwarz on the centred average ranks: `cov² ≤ var_x · var_y`,
    hence `ρ = cov / √(var_x var_y) ∈ [-1, 1]` whenever it is defined -/
theorem spearman_bounds (ps : List (Rat × Rat)) :
    (rankTriple ps).1 ^ 2 ≤ (rankTriple ps).2.1 * (rankTriple ps).2.2 := by
  -- both rank lists are maps over `ps`, so the three sums run over `ps` itself
  unfold rankTriple covTriple avgRanks
  simp only [List.map_map, List.zipWith_map, List.zipWith_self, sumQ_eq_sum, ← pow_two]
  exact cauchy_schwarz_map ps _ _

theorem rho_sq_le_one (ps : List (Rat × Rat)) (pos : Bool) (r2 : Rat)
    (h : rhoSq (rankTriple ps) = some (pos, r2)) : 0 ≤ r2 ∧ r2 ≤ 1 :=
  rhoSq_le_one _ (spearman_bounds ps) pos r2 h

/-- a strictly monotone transformation of either sequence leaves the average
    ranks, hence the rank-covariance triple and ρ, unchanged -/
theorem ranks_monotone (φ ψ : Rat → Rat) (hφ : StrictMono φ) (hψ : StrictMono ψ) (ps : List (Rat × Rat)) :
    rankTriple (ps.map fun p => (φ p.1, ψ p.2)) = rankTriple ps := by
  unfold rankTriple
  simp only [List.map_map, Function.comp_def]
  have h1 : (ps.map fun p => φ p.1) = (ps.map Prod.fst).map φ := List.map_map.symm
  have h2 : (ps.map fun p => ψ p.2) = (ps.map Prod.snd).map ψ := List.map_map.symm
  rw [h1, h2, avgRanks_map φ hφ, avgRanks_map ψ hψ]

/-- MuFidelity is unchanged by a positive rescaling of the explanations -/
theorem mufid_rescale (g : Geo) (f : List Rat → List Rat → Rat) (s : Sample) (masks : List (List Rat))
    (c : Rat) (hc : 0 < c) :
    rankTriple (pairsOne g f { s with phi := s.phi.map fun v => c * v } masks)
      = rankTriple (pairsOne g f s masks) := by
  have : pairsOne g f { s with phi := s.phi.map fun v => c * v } masks
      = (pairsOne g f s masks).map fun p => (id p.1, c * p.2) := by
    unfold pairsOne
    simp only [List.map_map, Function.comp_def, attrOf_scale, id]
  rw [this]
  exact ranks_monotone id (fun v => c * v) strictMono_id (fun a b h => mul_lt_mul_of_pos_left h hc) _

/-- additive score, binary masks, exact attributions: prediction drops and
    attribution sums coincide pointwise, so the triple is `(V, V, V)` and ρ = +1 whenever the
    drops are not all equal (`V ≠ 0`) -/
theorem mufid_additive (D : Nat) (g : Geo) (hg : g.cp = g.c) (F : List Rat → List Rat → Rat) (c0 : Rat)
    (h : Nat → Rat → Rat) (s : Sample) (hadd : ElemAdditive D (fun z => F z s.y) c0 h)
    (hx : s.x.length = D)
    (hphi : s.phi = (List.range D).map fun k => h k (s.x.getD k 0) - h k (s.base.getD k 0))
    (masks : List (List Rat))
    (hbin : ∀ m ∈ masks, ∀ k, k < D → m.getD (k / g.c) 0 = 0 ∨ m.getD (k / g.c) 0 = 1) :
    (∀ p ∈ pairsOne g F s masks, p.1 = p.2) ∧
    (let t := rankTriple (pairsOne g F s masks)
     t = (t.2.1, t.2.1, t.2.1) ∧ (t.2.1 ≠ 0 → rhoSq t = some (true, 1))) := by
  have hpt : ∀ p ∈ pairsOne g F s masks, p.1 = p.2 := by
    intro p hp
    obtain ⟨m, hm, rfl⟩ := List.mem_map.mp hp
    show F s.x s.y - F (degrade g.c s.x s.base m) s.y = attrOf g.cp s.phi m
    rw [hg, hphi]
    exact additive_pred_eq_attr D g.c (fun z => F z s.y) c0 h hadd s.x s.base m hx (hbin m hm)
  refine ⟨hpt, rankTriple_of_eq _ hpt, fun hV => ?_⟩
  rw [rankTriple_of_eq _ hpt]
  exact (rhoSq_diag _ (covTriple_var_nonneg _ _) hV).1

/-- the negated attributions give the negated attribution sums (link to the model) -/
theorem pairsOne_neg (g : Geo) (f : List Rat → List Rat → Rat) (s : Sample) (masks : List (List Rat)) :
    pairsOne g f { s with phi := s.phi.map fun v => -v } masks
      = (pairsOne g f s masks).map fun p => (p.1, -p.2) := by
  unfold pairsOne
  simp only [List.map_map, Function.comp_def, attrOf_neg]

/-- with the negated exact attributions the triple is `(-V, V, V)`:
    ρ = −1 whenever the drops are not all equal -/
theorem mufid_additive_neg (ps : List (Rat × Rat)) (hpt : ∀ p ∈ ps, p.1 = p.2) :
    let t := rankTriple ps
    let t' := rankTriple (ps.map fun p => (p.1, -p.2))
    t' = (-t.2.1, t.2.1, t.2.1) ∧ (t.2.1 ≠ 0 → rhoSq t' = some (false, 1)) := by
  have h : rankTriple (ps.map fun p => (p.1, -p.2))
      = (-(rankTriple ps).2.1, (rankTriple ps).2.1, (rankTriple ps).2.1) := by
    rw [rankTriple_neg_snd, rankTriple_of_eq ps hpt]
  exact ⟨h, fun hV => h ▸ (rhoSq_diag _ (covTriple_var_nonneg _ _) hV).2⟩

/-- explanations given per pixel (`(H, W)` / `(H, W, 1)`: the channel sum) or per channel
    (`(H, W, C)`) lead to the same pairs, because a mask cell covers all `C` channels of a pixel;
    with `mufid_additive` (stated for per-channel attributions) this covers both layouts -/
theorem mufid_channel_sum (F C : Nat) (hC : 0 < C) (f : List Rat → List Rat → Rat) (s : Sample)
    (hlen : s.phi.length = F * C) (masks : List (List Rat)) :
    pairsOne { c := C, cp := 1 } f { s with phi := cellSum F C s.phi } masks
      = pairsOne { c := C, cp := C } f s masks := by
  unfold pairsOne
  simp only [attrOf_cellSum F C s.phi _ hlen]

/-- a score that never varies: every prediction drop is 0, the rank variance
    of the drops vanishes, ρ is undefined (NaN) and the metric reports 0 for the sample -/
theorem mufid_constant (g : Geo) (f : List Rat → List Rat → Rat) (c : Rat) (hf : ∀ z y, f z y = c)
    (s : Sample) (masks : List (List Rat)) :
    (rankTriple (pairsOne g f s masks)).2.1 = 0 ∧ rhoSq (rankTriple (pairsOne g f s masks)) = none := by
  have h0 : ∀ u ∈ (pairsOne g f s masks).map Prod.fst, u = 0 := by
    intro u hu
    rw [pairsOne, List.map_map] at hu
    obtain ⟨m, _, rfl⟩ := List.mem_map.mp hu
    show f s.x s.y - f (degrade g.c s.x s.base m) s.y = 0
    rw [hf, hf, sub_self]
  have hv : (rankTriple (pairsOne g f s masks)).2.1 = 0 :=
    covTriple_const_left _ _ _ (avgRanks_const _ 0 h0)
  exact ⟨hv, rhoSq_eq_none _ (by rw [hv, zero_mul])⟩

theorem stability_nonneg (expl : List (List Rat) → List (List Rat) → List (List Rat))
    (dist : List Rat → List Rat → Rat) (hd : ∀ a b, 0 ≤ dist a b) (noise : List (List Rat))
    (ss : List (List Rat × List Rat × List Rat)) : 0 ≤ stabImpl expl dist noise ss := by
  unfold stabImpl
  apply meanQ_nonneg
  intro v hv
  obtain ⟨⟨x, y, phi⟩, _, rfl⟩ := List.mem_map.mp hv
  apply meanQ_nonneg
  intro w hw
  obtain ⟨pn, _, rfl⟩ := List.mem_map.mp hw
  exact hd _ _

/-- an explainer that ignores its input (always `e0`) scores exactly 0 for
    any distance with `dist e0 e0 = 0` -/
theorem stability_const (expl : List (List Rat) → List (List Rat) → List (List Rat))
    (dist : List Rat → List Rat → Rat) (e0 : List Rat) (hd : dist e0 e0 = 0)
    (hexpl : ∀ nbrs labs, expl nbrs labs = nbrs.map fun _ => e0) (noise : List (List Rat))
    (ss : List (List Rat × List Rat × List Rat)) (hphi : ∀ s ∈ ss, s.2.2 = e0) :
    stabImpl expl dist noise ss = 0 := by
  apply meanQ_eq_zero
  intro v hv
  obtain ⟨s, hs, rfl⟩ := List.mem_map.mp hv
  apply meanQ_eq_zero
  intro w hw
  obtain ⟨pn, hpn, rfl⟩ := List.mem_map.mp hw
  rw [hexpl] at hpn
  obtain ⟨_, _, rfl⟩ := List.mem_map.mp hpn
  rw [hphi s hs, hd]

/-- each sample gets exactly `nb_samples` neighbours (one per fixed noise mask,
    the batch size plays no role in `evaluate`), neighbour `k` being `x + noise_k` elementwise, hence
    within `[0, radius)` of `x` whenever the noise is -/
theorem stability_nb (x : List Rat) (noise : List (List Rat)) (r : Rat)
    (hlen : ∀ m ∈ noise, m.length = x.length) (hr : ∀ m ∈ noise, ∀ v ∈ m, 0 ≤ v ∧ v < r) :
    (neighbors x noise).length = noise.length ∧
    ∀ k, k < noise.length → ∀ i, i < x.length →
      ((neighbors x noise).getD k []).getD i 0 = x.getD i 0 + (noise.getD k []).getD i 0 ∧
      0 ≤ ((neighbors x noise).getD k []).getD i 0 - x.getD i 0 ∧
      ((neighbors x noise).getD k []).getD i 0 - x.getD i 0 < r := by
  refine ⟨List.length_map _, fun k hk i hi => ?_⟩
  have hmem : noise[k] ∈ noise := List.getElem_mem hk
  have hl := hlen _ hmem
  have h1 : (neighbors x noise).getD k [] = vadd x noise[k] := by
    rw [neighbors, List.getD_eq_getElem _ _ (by rwa [List.length_map]), List.getElem_map]
  have hi' : i < noise[k].length := hl ▸ hi
  rw [h1, List.getD_eq_getElem noise [] hk, vadd_getD x noise[k] hl.symm i, List.getD_eq_getElem noise[k] 0 hi',
    add_sub_cancel_left]
  exact ⟨rfl, hr _ hmem _ (List.getElem_mem hi')⟩

/-! ### non-vacuity -/

example : chunksOf 5 12 = [5, 5, 2] ∧ ibsOf 5 12 = 1 ∧ ibsOf 64 12 = 5 ∧ pbsOf 64 12 = 12 := by decide +kernel
example : avgRanks [3, 1, 3, 2] = [7 / 2, 1, 7 / 2, 2] := by decide +kernel
example : rankTriple [(1, 2), (2, 1), (3, 5), (4, 4)] = (3, 5, 5) := by decide +kernel
example : rhoSq (rankTriple [(1, 1), (2, 2), (5, 5)]) = some (true, 1) := by decide +kernel
example : rhoSq (rankTriple [(0, 1), (0, 2)]) = none := by decide +kernel
example : StrictMono (fun v : Rat => 3 * v) := fun a b h => by simp only; linarith
example : ∀ a b : List Rat, 0 ≤ l1 a b := fun a b => sumQ_nonneg _ (by
  intro v hv; simp only [List.mem_map] at hv; obtain ⟨d, _, rfl⟩ := hv
  unfold ratAbs; split <;> linarith)
example : l1 [1, 2] [1, 2] = 0 ∧ l2sq [1, 2] [1, 2] = 0 ∧ linf [1, 2] [1, 2] = 0 := by decide +kernel
/-- a linear score is additive over flat positions -/
example : ElemAdditive 2 (fun z => 5 + 2 * z.getD 0 0 - 3 * z.getD 1 0) 5
    (fun k v => if k = 0 then 2 * v else -3 * v) := by
  intro z _
  show (5 : Rat) + 2 * z.getD 0 0 - 3 * z.getD 1 0 = 5 + (2 * z.getD 0 0 + (-3 * z.getD 1 0 + 0))
  ring

end Xp.MuFid
