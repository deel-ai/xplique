/-
  C16 — similar-example search returns exactly the k nearest cases.

  `TopK.knnOne` / `TopK.knnImpl` are the executable model of `KNN.kneighbors` /
  `SimilarExamples.explain` (batched running top-k; batch-size clamp, cardinality and flat index
  GENERATED from the source); `TopK.knnSpec` is the brute-force reference.
  All theorems hold for every dataset size, every batch size, every k, every distance key function
  and EVERY sort that returns a sorted permutation (the order of ties is not specified, so nothing
  is assumed about `tf.argsort` beyond sortedness).
-/
import XpModel.TopK
import XpProofs.Lemmas.TopK
import XpProofs.Lemmas.KnnIndex
import XpProofs.Lemmas.Index

namespace Xp.TopK
variable {γ : Type}

/-- the table column of case `c` at `(bi, p)` in `KNN.kneighbors` -/
def mkKnn (key : γ → Dist) : γ → Nat → Nat → Entry Idx := fun c bi p => ⟨key c, some (bi, p)⟩

def knnSeen (k : Nat) (key : γ → Dist) (bsz : Nat) (cases : List γ) : List (Entry Idx) :=
  fills k ++ allE (mkKnn key) bsz cases

-- `knnOne sort k bsz key cases` unfolds to `search sort k none (mkKnn key) bsz cases`, so the facts
-- about the loop are the `search_*` lemmas at this instance.

/-- for any sort and any batch size the result of the loop is a sorted selection of the `k` smallest
    columns among the fills and all cases: nothing left out is smaller than anything returned. -/
theorem knn_topk {sort : List (Entry Idx) → List (Entry Idx)} (hsort : IsSort entryLe sort)
    (k bsz : Nat) (key : γ → Dist) (cases : List γ) :
    IsTopK entryLe k (knnSeen k key bsz cases) (knnOne sort k bsz key cases) :=
  search_isTopK hsort k none (mkKnn key) bsz cases

/-- distances = the k smallest, sorted, padded with +inf, for every batch size `bsz ≥ 1`
    (remainder batch, one batch, `k` larger than a batch) and every sort. -/
theorem knn_keys {sort : List (Entry Idx) → List (Entry Idx)} (hsort : IsSort entryLe sort)
    (k bsz : Nat) (hb : 0 < bsz) (key : γ → Dist) (cases : List γ) :
    (knnOne sort k bsz key cases).map (·.key) = smallestKeys k (cases.map key) :=
  search_keys hsort k none (mkKnn key) bsz cases key (fun _ _ _ => rfl) hb

/-- `min(batch_size, N)` (GENERATED from harmonize.py): the effective batch size -/
theorem hz_batch_spec (b n : Nat) : effBs (some b) n = min b n := by
  rw [effBs, Gen.hzBatch, ← Nat.cast_min, Int.toNat_natCast]

theorem effBs_pos (bs : Option Nat) (hbs : ∀ b, bs = some b → 0 < b) (n : Nat) (hn : 0 < n) :
    0 < effBs bs n := by
  cases bs with
  | none => exact hn
  | some b =>
    rw [hz_batch_spec]
    exact Nat.lt_min.mpr ⟨hbs b rfl, hn⟩

/-- the distances returned by the batched implementation model equal the brute-force reference, for
    every projection, distance, `k`, batch size (`None` or `≥ 1`), non-empty dataset, list of queries
    and every sort. The same `project` is applied to the query and to the cases (`projKey`). -/
theorem knn_impl_eq_spec {sort : List (Entry Idx) → List (Entry Idx)} (hsort : IsSort entryLe sort)
    (P : Proj) (dk : DistKind) (k : Nat) (bs : Option Nat) (hbs : ∀ b, bs = some b → 0 < b)
    (cases queries : List Sample) (hne : cases ≠ []) :
    (knnImpl sort P dk k bs cases queries).map (fun r => r.map (·.key)) = knnSpec P dk k cases queries := by
  rw [knnImpl, knnSpec, List.map_map]
  exact List.map_congr_left fun q _ =>
    knn_keys hsort k _ (effBs_pos bs hbs _ (List.length_pos_iff.mpr hne)) _ cases

theorem knn_bs_indep {sort : List (Entry Idx) → List (Entry Idx)} (hsort : IsSort entryLe sort)
    (P : Proj) (dk : DistKind) (k b : Nat) (hb : 0 < b) (cases queries : List Sample) (hne : cases ≠ []) :
    (knnImpl sort P dk k (some b) cases queries).map (fun r => r.map (·.key))
      = (knnImpl sort P dk k none cases queries).map (fun r => r.map (·.key)) :=
  bs_indep_of_spec (fun bs => (knnImpl sort P dk k bs cases queries).map (fun r => r.map (·.key))) _
    (fun bs hbs => knn_impl_eq_spec hsort P dk k bs hbs cases queries hne) hb

theorem knn_per_sample (sort : List (Entry Idx) → List (Entry Idx)) (P : Proj) (dk : DistKind) (k : Nat)
    (bs : Option Nat) (cases queries : List Sample) :
    knnImpl sort P dk k bs cases queries
      = queries.flatMap (fun q => knnImpl sort P dk k bs cases [q]) :=
  List.map_eq_flatMap

/-- the returned distances are increasing -/
theorem knn_sorted {sort : List (Entry Idx) → List (Entry Idx)} (hsort : IsSort entryLe sort)
    (k bsz : Nat) (key : γ → Dist) (cases : List γ) :
    (knnOne sort k bsz key cases).Pairwise (fun a b => dle a.key b.key = true) :=
  (knn_topk hsort k bsz key cases).sorted

theorem knn_length {sort : List (Entry Idx) → List (Entry Idx)} (hsort : IsSort entryLe sort)
    (k bsz : Nat) (key : γ → Dist) (cases : List γ) : (knnOne sort k bsz key cases).length = k :=
  search_length hsort k none (mkKnn key) bsz cases

/-- a returned column is either an initial fill (`(-1,-1)`, `+inf`) or carries the index `(bi, p)`
    of a case that `dataset_gather` finds at that index, together with the true distance of that case. -/
theorem knn_pairs_valid {sort : List (Entry Idx) → List (Entry Idx)} (hsort : IsSort entryLe sort)
    (k bsz : Nat) (key : γ → Dist) (cases : List γ) :
    ∀ e ∈ knnOne sort k bsz key cases,
      (e.val = none ∧ e.key = none) ∨
      ∃ bi p c, e.val = some (bi, p) ∧ gather (batches bsz cases) (some (bi, p)) = some c ∧ e.key = key c := by
  intro e he
  rcases search_mem hsort k none (mkKnn key) bsz cases he with rfl | ⟨bi, p, c, hg, rfl⟩
  · exact Or.inl ⟨rfl, rfl⟩
  · exact Or.inr ⟨bi, p, c, rfl, hg, rfl⟩

/-- a case whose index is not returned is at least as far as every returned column -/
theorem knn_nearest {sort : List (Entry Idx) → List (Entry Idx)} (hsort : IsSort entryLe sort)
    (k bsz : Nat) (key : γ → Dist) (cases : List γ) (bi p : Nat) (c : γ)
    (hg : gather (batches bsz cases) (some (bi, p)) = some c)
    (hnot : ∀ e ∈ knnOne sort k bsz key cases, e.val ≠ some (bi, p)) :
    ∀ r ∈ knnOne sort k bsz key cases, dle r.key (key c) = true :=
  search_nearest hsort k none (mkKnn key) bsz cases hg (fun hin => hnot _ hin rfl)

/-- no case is returned twice: the returned `(batch, position)` indices are pairwise distinct -/
theorem knn_distinct {sort : List (Entry Idx) → List (Entry Idx)} (hsort : IsSort entryLe sort)
    (k bsz : Nat) (key : γ → Dist) (cases : List γ) :
    ((knnOne sort k bsz key cases).filterMap (·.val)).Nodup := by
  apply (knn_topk hsort k bsz key cases).nodup_filterMap
  rw [knnSeen, List.filterMap_append, fills, List.filterMap_replicate_of_none rfl, List.nil_append]
  exact allE_idx_nodup (mkKnn key) (·.val) (fun _ _ _ => rfl) bsz cases

/-- exactly `min k (number of cases at finite distance)` of the `k` returned columns have a finite
    distance; the others are `+inf` -/
theorem knn_finite_count {sort : List (Entry Idx) → List (Entry Idx)} (hsort : IsSort entryLe sort)
    (k bsz : Nat) (hb : 0 < bsz) (key : γ → Dist) (cases : List γ) :
    List.countP (fun e => e.key.isSome) (knnOne sort k bsz key cases)
      = min k (List.countP (fun c => (key c).isSome) cases) := by
  have h := countP_smallestKeys k (cases.map key)
  rw [← knn_keys hsort k bsz hb key cases, List.countP_map, List.countP_map] at h
  exact h

/-- with finite distances, `min k N` slots are filled -/
theorem knn_filled_count {sort : List (Entry Idx) → List (Entry Idx)} (hsort : IsSort entryLe sort)
    (k bsz : Nat) (hb : 0 < bsz) (key : γ → Dist) (hfin : ∀ c, (key c).isSome = true) (cases : List γ) :
    List.countP (fun e => e.key.isSome) (knnOne sort k bsz key cases) = min k cases.length := by
  rw [knn_finite_count hsort k bsz hb key cases, List.countP_eq_length.mpr fun c _ => hfin c]

/-- k ≤ N: every slot holds a real case (no `(-1,-1)` index, no `+inf`) -/
theorem knn_all_real {sort : List (Entry Idx) → List (Entry Idx)} (hsort : IsSort entryLe sort)
    (k bsz : Nat) (hb : 0 < bsz) (key : γ → Dist) (hfin : ∀ c, (key c).isSome = true) (cases : List γ)
    (hk : k ≤ cases.length) :
    ∀ e ∈ knnOne sort k bsz key cases, ∃ bi p, e.val = some (bi, p) := by
  have hc := knn_filled_count hsort k bsz hb key hfin cases
  rw [Nat.min_eq_left hk] at hc
  have hall := List.countP_eq_length.mp (hc.trans (knn_length hsort k bsz key cases).symm)
  intro e he
  rcases knn_pairs_valid hsort k bsz key cases e he with ⟨_, hk'⟩ | ⟨bi, p, _, hv, _, _⟩
  · have := hall e he; rw [hk'] at this; cases this
  · exact ⟨bi, p, hv⟩

/-- the torch-tensor branch of harmonize.py computes the same clamp and cardinality -/
theorem hz_torch_same (b n : Int) :
    Gen.hzBatchTorch b n = Gen.hzBatch b n ∧ Gen.hzCardTorch n b = Gen.hzCard n b := ⟨rfl, rfl⟩

/-- the torch `DataLoader` branch (GENERATED): the loader's nominal batch size clamped to the size of the first batch
    it yields - which is `min(batch_size, N)` - is again the effective batch size `min(batch_size, N)`, so a loader with
    more room than cases is accepted like every other container -/
theorem hz_loader_spec (b n : Int) : Gen.hzBatchLoader b (min b n) = Gen.hzBatch b n :=
  Int.min_self_assoc

/-- `ceil(N / batch_size)` (GENERATED from harmonize.py) is the number of batches of
    `dataset.batch(batch_size)`: the cardinality assertion of `sanitize_dataset` always holds for
    tensors -/
theorem hz_card_spec (bsz : Nat) (hb : 0 < bsz) (xs : List γ) :
    card xs.length bsz = (batches bsz xs).length := by
  rw [card, Gen.hzCard, ceil_eq_length_batches bsz hb]

/-- `dataset_gather` at `(bi, p)` returns the row of the unbatched data at
    the GENERATED flat index `bi * batch_size + p` (for positions inside the batch width) -/
theorem gather_flat_spec (b : Nat) (hb : 0 < b) (xs : List γ) (bi p : Nat) (hp : p < b) :
    gather (batches b xs) (some (bi, p)) = xs[(Gen.flatIndex bi b p).toNat]? := by
  rw [gather_batches b hb, if_pos hp, Gen.flatIndex, ← Int.natCast_mul, ← Int.natCast_add,
    Int.toNat_natCast]

/-- every row `i` is reached from exactly the index `(i / b, i % b)` -/
theorem flat_index_inv (b i : Nat) :
    Gen.flatIndex ((i / b : Nat) : Int) (b : Int) ((i % b : Nat) : Int) = (i : Int) := by
  rw [Gen.flatIndex, ← Int.natCast_mul, ← Int.natCast_add, Nat.div_add_mod']

theorem flat_index_inj (b bi p bi' p' : Nat) (hp : p < b) (hp' : p' < b)
    (h : Gen.flatIndex bi b p = Gen.flatIndex bi' b p') : bi = bi' ∧ p = p' := by
  rw [Gen.flatIndex, Gen.flatIndex, ← Int.natCast_mul, ← Int.natCast_mul, ← Int.natCast_add,
    ← Int.natCast_add, Int.natCast_inj] at h
  exact ⟨(rm_div bi hp).symm.trans ((congrArg (· / b) h).trans (rm_div bi' hp')),
    (rm_mod bi hp).symm.trans ((congrArg (· % b) h).trans (rm_mod bi' hp'))⟩

private theorem diffAbs_translation (a b : List Rat) (c : Rat) :
    diffAbs (a.map (· + c)) (b.map (· + c)) = diffAbs a b := by
  rw [diffAbs, List.zipWith_map, diffAbs]
  exact congrArg (List.zipWith · a b) (funext fun x => funext fun y => by rw [add_sub_add_right_eq_sub])

/-- every predefined distance except the cosine one is translation invariant: a common offset of the (projected) query and case
    changes no search key, hence neither the k nearest cases nor their order (the common-offset family of the correspondence
    check; a crossed-distance routine that expands `‖x‖² − 2⟨x,z⟩ + ‖z‖²` in float32 does not have this property) -/
theorem knn_key_translation (dk : DistKind) (a b : List Rat) (c : Rat) (hcos : dk ≠ .cos) :
    distKey dk (a.map (· + c)) (b.map (· + c)) = distKey dk a b := by
  cases dk with
  | cos => exact absurd rfl hcos
  | l1 => simp only [distKey, diffAbs_translation]
  | linf => simp only [distKey, diffAbs_translation]
  | lp p => simp only [distKey, diffAbs_translation]
  | wl1 w => simp only [distKey, diffAbs_translation]

-- the model's stable sort satisfies the sort hypothesis of every theorem above
example : IsSort (entryLe (β := Idx)) sortE := sortE_isSort

-- a concrete run: 5 one-dimensional cases with ties, k = 3, batches of 2 (remainder batch)
example : (knnOne sortE 3 2 (fun c : Rat => some (ratAbs (c - 1))) [3, 1, 0, 2, 1]).map
    (fun e => (e.key, e.val)) = [(some 0, some (0, 1)), (some 0, some (2, 0)), (some 1, some (1, 0))] := by
  decide +kernel

-- fewer cases than k: padded with +inf and the (-1,-1) index
example : (knnOne sortE 3 4 (fun c : Rat => some (ratAbs c)) [2, -1]).map (fun e => (e.key, e.val))
    = [(some 1, some (0, 1)), (some 2, some (0, 0)), (none, none)] := by
  decide +kernel

example : effBs (some 7) 5 = 5 ∧ card 5 2 = 3 ∧ flatOf 2 (some (2, 0)) = some 4 := by decide +kernel

end Xp.TopK
