/-
  C13 — explainers and metrics are reusable: results do not depend on call history.

  Model: XpModel/History.lean — the state machines of every field mutated after construction: the fields of the
  explainer objects and the class-level model cache `_cache_models`, then the layer objects: `override_relu_gradient`
  (DeconvNet, GuidedBackprop) clones the model's layers and re-routes only the clone's ReLU sites, modelled as a heap
  of layer objects that only grows.  Theorems are invariants by induction over arbitrary call / construction histories.
-/
import XpModel.History
import XpProofs.Lemmas.Vec
import Mathlib.Data.List.Basic

namespace Xp.Hist

/-! Two shapes of history.  A call that normalises a field (`patch_size`, `ref_value`) is idempotent, so a history of
like calls changes nothing a further call sees.  A history whose results are collected (`gsCall`, `constructAll`,
`overrideAll`) is one fold: `foldl_collect` splits it into the states, a plain `foldl`, and the outputs, a structural
recursion. -/

private theorem call_after_history {σ ι : Type} (call : σ → ι → σ) (b : ι) (hid : ∀ s, call (call s b) b = call s b)
    (hist : List ι) (h : ∀ x ∈ hist, x = b) (s : σ) : call (hist.foldl call s) b = call s b := by
  induction hist generalizing s with
  | nil => rfl
  | cons x hist ih =>
    obtain rfl : x = b := h x List.mem_cons_self
    exact (ih (fun y hy => h y (List.mem_cons_of_mem _ hy)) (call s x)).trans (hid s)

section Machine
variable {σ ι ο γ : Type} (step : σ → ι → σ × ο)

/-- what the loop returns: `explain` over the input batches, `__init__` over the models, `override_relu_gradient` over
    the constructions each append one result per element while the object state moves on -/
def outputs : σ → List ι → List ο
  | _, [] => []
  | s, x :: xs => (step s x).2 :: outputs (step s x).1 xs

abbrev finalState (s : σ) (xs : List ι) : σ := xs.foldl (fun s x => (step s x).1) s

private theorem foldl_collect (xs : List ι) (s : σ) (pre : List ο) :
    xs.foldl (fun (acc : σ × List ο) x => let r := step acc.1 x; (r.1, acc.2 ++ [r.2])) (s, pre)
      = (finalState step s xs, pre ++ outputs step s xs) := by
  induction xs generalizing s pre with
  | nil => exact congrArg (Prod.mk s) (List.append_nil pre).symm
  | cons x xs ih =>
    rw [List.foldl_cons, ih, List.append_assoc]
    rfl

private theorem foldl_collect_nil (xs : List ι) (s : σ) :
    xs.foldl (fun (acc : σ × List ο) x => let r := step acc.1 x; (r.1, acc.2 ++ [r.2])) (s, [])
      = (finalState step s xs, outputs step s xs) :=
  (foldl_collect step xs s []).trans (congrArg (Prod.mk _) (List.nil_append _))

private theorem outputs_append (s : σ) (xs ys : List ι) :
    outputs step s (xs ++ ys) = outputs step s xs ++ outputs step (finalState step s xs) ys := by
  induction xs generalizing s with
  | nil => rfl
  | cons x xs ih => exact congrArg ((step s x).2 :: ·) (ih (step s x).1)

private theorem length_outputs (s : σ) (xs : List ι) : (outputs step s xs).length = xs.length := by
  induction xs generalizing s with
  | nil => rfl
  | cons x xs ih => exact congrArg (· + 1) (ih (step s x).1)

private theorem map_outputs (Inv : σ → Prop) (f : ο → γ) (g : ι → γ)
    (hstep : ∀ s x, Inv s → Inv (step s x).1 ∧ f (step s x).2 = g x) (s : σ) (hs : Inv s) (xs : List ι) :
    (outputs step s xs).map f = xs.map g := by
  induction xs generalizing s with
  | nil => rfl
  | cons x xs ih =>
    obtain ⟨h1, h2⟩ := hstep s x hs
    exact congrArg₂ List.cons h2 (ih _ h1)

end Machine

/-! ### Occlusion: tuple-isation is idempotent, so every call of a history sees the same geometry -/

theorem tuple_idem (p : PSize) : p.tuple.tuple = p.tuple := by cases p <;> rfl

theorem occl_call_idempotent (s : Occl) (b : Bool) : (s.call b).call b = s.call b := by
  cases b
  · rfl
  · exact congrArg₂ Occl.mk (tuple_idem s.patch) (tuple_idem s.stride)

/-- after any number of earlier calls on inputs of the same kind, a call works with the same patch geometry as the
    first call on a fresh object. -/
theorem occl_history_independent (s : Occl) (b : Bool) (hist : List Bool) (h : ∀ x ∈ hist, x = b) :
    (hist.foldl Occl.call s).effective b = s.effective b :=
  call_after_history Occl.call b (occl_call_idempotent · b) hist h s

/-! ### Lime / KernelShap: defaults are chosen once and are a function of the input kind -/

theorem lime_call_idempotent (s : Lime) (k : DKind) : (s.call k).call k = s.call k := by
  cases s with
  | mk r m => cases r <;> cases m <;> cases k <;> rfl

/-- reference value and mapping used by a call are those a fresh object would use, after any history of calls on the
    same input kind. -/
theorem lime_history_independent (s : Lime) (k : DKind) (hist : List DKind) (h : ∀ x ∈ hist, x = k) :
    (hist.foldl Lime.call s).call k = s.call k :=
  call_after_history Lime.call k (lime_call_idempotent · k) hist h s

theorem lime_user_values_kept (r : RefVal) (m : MapFn) (k : DKind) :
    ({ ref := some r, map := some m } : Lime).call k = { ref := some r, map := some m } := rfl

/-! ### SmoothGrad family: the running statistic is reset before every use -/

/-- the value returned for an input batch does not depend on the state left by earlier calls -/
theorem online_reset (st : Stat) (o o' : Online) (chunks : List (List Rat)) :
    gsBatch st o chunks = gsBatch st o' chunks := rfl

/-- whatever state earlier calls left in the object, a call returns for each input batch the statistic of that
    batch's own gradients only. -/
theorem gs_history_independent (st : Stat) (o : Online) (bs : List (List (List Rat))) :
    (gsCall st o bs).2 = bs.map (fun b => (gsBatch st Online.reset b).2) := by
  unfold gsCall
  rw [foldl_collect_nil (gsBatch st)]
  exact (List.map_id _).symm.trans
    (map_outputs (gsBatch st) (fun _ => True) id _
      (fun o' b _ => ⟨trivial, congrArg Prod.snd (online_reset st o' Online.reset b)⟩) o trivial bs)

private theorem Online.update_append (o : Online) (a b : List Rat) : (o.update a).update b = o.update (a ++ b) := by
  unfold Online.update
  rw [List.length_append, List.map_append, sumQ_append, sumQ_append, Nat.add_assoc, add_assoc, add_assoc]

private theorem Online.foldl_update (chunks : List (List Rat)) (o : Online) :
    chunks.foldl Online.update o = o.update chunks.flatten := by
  induction chunks generalizing o with
  | nil =>
    show o = ⟨o.cnt + 0, o.sum + 0, o.sq + 0⟩
    rw [Nat.add_zero, add_zero, add_zero]
  | cons c cs ih => rw [List.foldl_cons, ih, Online.update_append, List.flatten_cons]

/-- the accumulated statistic is that of all gradients of the batch, however they were chunked -/
theorem online_is_statistic_of_batch (chunks : List (List Rat)) :
    chunks.foldl Online.update Online.reset =
      { cnt := chunks.flatten.length, sum := sumQ chunks.flatten,
        sq := sumQ (chunks.flatten.map fun g => g * g) } := by
  rw [Online.foldl_update]
  show (⟨0 + _, 0 + _, 0 + _⟩ : Online) = _
  rw [Nat.zero_add, zero_add, zero_add]

/-! ### the class-level model cache: every entry is filed under its own model's key (`Cache.WF`), and a construction only appends -/

private theorem lookup_some_key (c : Cache) (hc : c.WF) (k : Nat × Nat) (r : ModelRef)
    (h : c.lookup k = some r) : r.key = k := by
  obtain ⟨e, he, rfl⟩ := Option.map_eq_some_iff.mp h
  have hk : decide (e.1 = k) = true :=
    List.find?_some (p := fun e : (Nat × Nat) × ModelRef => decide (e.1 = k)) he
  exact (hc e (List.mem_of_find?_eq_some he)).trans (of_decide_eq_true hk)

private theorem construct_spec (c : Cache) (hc : c.WF) (m : ModelRef) :
    (construct c m).1.WF ∧ (construct c m).2.key = m.key := by
  unfold construct
  cases h : c.lookup m.key with
  | some r => exact ⟨hc, lookup_some_key c hc m.key r h⟩
  | none =>
    refine ⟨fun e he => ?_, rfl⟩
    rcases List.mem_append.mp he with he | he
    · exact hc e he
    · obtain rfl := List.mem_singleton.mp he
      rfl

/-- an entry, once cached, is never replaced -/
theorem construct_preserves_lookup (c : Cache) (m : ModelRef) (k : Nat × Nat) (r : ModelRef)
    (h : c.lookup k = some r) : (construct c m).1.lookup k = some r := by
  unfold construct
  cases hm : c.lookup m.key with
  | some r' => exact h
  | none =>
    obtain ⟨e, he, rfl⟩ := Option.map_eq_some_iff.mp h
    show ((c ++ [(m.key, m)]).find? _).map _ = _
    rw [List.find?_append, he]
    rfl

private theorem constructAll_eq (c : Cache) (ms : List ModelRef) :
    constructAll c ms = (finalState construct c ms, outputs construct c ms) :=
  foldl_collect_nil construct ms c

private theorem constructAll_keys (c : Cache) (hc : c.WF) (ms : List ModelRef) :
    (constructAll c ms).2.map ModelRef.key = ms.map ModelRef.key := by
  rw [constructAll_eq]
  exact map_outputs construct Cache.WF _ _ (fun c m hc => construct_spec c hc m) c hc ms

/-- after ANY sequence of explainer constructions (same or other models, in any order), the i-th explainer's `model`
    has the (input, output) tensors of the i-th model. -/
theorem cache_sound (c : Cache) (hc : c.WF) (ms : List ModelRef) (i : Nat) (hi : i < ms.length) :
    ((constructAll c ms).2[i]?).map ModelRef.key = some (ms[i]).key := by
  rw [← List.getElem?_map, constructAll_keys c hc, List.getElem?_map, List.getElem?_eq_getElem hi]
  rfl

/-- constructing further explainers never changes what earlier explainers hold -/
theorem cache_isolation (c : Cache) (hc : c.WF) (ms ms' : List ModelRef) :
    (constructAll c (ms ++ ms')).2.take ms.length = (constructAll c ms).2 := by
  rw [constructAll_eq, constructAll_eq, outputs_append]
  exact List.take_left' (length_outputs construct c ms)

-- non-vacuity
example : (Occl.mk (.scalar 3) (.pair 2 1)).effective true = ⟨.pair 3 3, .pair 2 1⟩ := by decide
example : (constructAll [] [⟨1, 10, 11⟩, ⟨2, 20, 21⟩, ⟨3, 10, 11⟩]).2 = [⟨1, 10, 11⟩, ⟨2, 20, 21⟩, ⟨1, 10, 11⟩] := by
  decide
example : Cache.WF [] := by intro e he; cases he
example : (gsCall .smooth ⟨7, 5, 3⟩ [[[1, 2], [3]], [[4]]]).2 = [2, 4] := by decide +kernel

/-! ### override_relu_gradient: clone + re-route is a frame-preserving heap operation -/

theorem setRule1_length (r : Rule) (h : Heap) (i : Nat) : (setRule1 r h i).length = h.length := by
  unfold setRule1; split
  · split
    · exact List.length_set
    · rfl
  · rfl

theorem setRule1_frame (r : Rule) (h : Heap) (i j : Nat) (hne : j ≠ i) : (setRule1 r h i)[j]? = h[j]? := by
  unfold setRule1; split
  · split
    · exact List.getElem?_set_ne (Ne.symm hne)
    · rfl
  · rfl

theorem setRule_length (h : Heap) (ids : List Nat) (r : Rule) : (setRule h ids r).length = h.length := by
  unfold setRule
  induction ids generalizing h with
  | nil => rfl
  | cons i ids ih => exact (ih _).trans (setRule1_length r h i)

theorem setRule_frame (h : Heap) (ids : List Nat) (r : Rule) (j : Nat) (hj : j ∉ ids) :
    (setRule h ids r)[j]? = h[j]? := by
  unfold setRule
  induction ids generalizing h with
  | nil => rfl
  | cons i ids ih =>
    exact (ih _ fun hm => hj (List.mem_cons_of_mem _ hm)).trans
      (setRule1_frame r h i j fun e => hj (e ▸ List.mem_cons_self))

def reroute (r : Rule) (l : LayerObj) : LayerObj := if l.relu then { l with rule := r } else l

theorem setRule1_at (r : Rule) (h : Heap) (i : Nat) : (setRule1 r h i)[i]? = (h[i]?).map (reroute r) := by
  unfold setRule1 reroute
  cases hh : h[i]? with
  | none => exact hh
  | some l =>
    show (if l.relu = true then h.set i { l with rule := r } else h)[i]? = some (if l.relu = true then _ else l)
    split
    · exact List.getElem?_set_self (List.getElem?_eq_some_iff.mp hh).1
    · exact hh

theorem setRule_at (h : Heap) (ids : List Nat) (r : Rule) (hnd : ids.Nodup) (j : Nat) (hj : j ∈ ids) :
    (setRule h ids r)[j]? = (h[j]?).map (reroute r) := by
  induction ids generalizing h with
  | nil => cases hj
  | cons i ids ih =>
    rw [List.nodup_cons] at hnd
    show (setRule (setRule1 r h i) ids r)[j]? = _
    rcases List.mem_cons.mp hj with rfl | hj'
    · rw [setRule_frame _ _ _ _ hnd.1, setRule1_at]
    · rw [ih _ hnd.2 hj', setRule1_frame _ _ _ _ fun e : j = i => hnd.1 (e ▸ hj')]

private theorem overrideClone_fst (h : Heap) (m : LModel) (r : Rule) :
    (overrideClone h m r).1
      = setRule (h ++ m.map fun i => h[i]?.getD default) (List.range' h.length m.length) r := rfl

/-- object k of the clone is the copy of the model's k-th layer, re-routed to the requested rule when (and only
    when) it is a ReLU site -/
theorem clone_site (h : Heap) (m : LModel) (r : Rule) (k : Nat) (hk : k < m.length) :
    (overrideClone h m r).1[h.length + k]? = some (reroute r (h[m[k]]?.getD default)) := by
  have hmem : h.length + k ∈ List.range' h.length m.length :=
    List.mem_range'_1.mpr ⟨Nat.le_add_right .., Nat.add_lt_add_left hk _⟩
  -- its identity occurs once among the clone's, so it is re-routed once; before that it is the copy of layer `m[k]`
  rw [overrideClone_fst, setRule_at _ _ _ (List.nodup_range' ..) _ hmem,
    List.getElem?_append_right (Nat.le_add_right ..), Nat.add_sub_cancel_left, List.getElem?_map,
    List.getElem?_eq_getElem hk]
  rfl

theorem clone_fresh (h : Heap) (m : LModel) : ∀ i ∈ (cloneModel h m).2, h.length ≤ i :=
  fun _ hi => (List.mem_range'_1.mp hi).1

theorem overrideClone_length (h : Heap) (m : LModel) (r : Rule) :
    (overrideClone h m r).1.length = h.length + m.length := by
  rw [overrideClone_fst, setRule_length, List.length_append, List.length_map]

/-- `override_relu_gradient` leaves every object that existed before the call untouched: the new heap
    extends the old one -/
private theorem override_prefix (h : Heap) (m : LModel) (r : Rule) : h <+: (overrideClone h m r).1 := by
  refine List.prefix_iff_getElem?.mpr fun j hj => ?_
  have hfresh : j ∉ List.range' h.length m.length := fun hm => Nat.not_le_of_lt hj (clone_fresh h m j hm)
  rw [overrideClone_fst, setRule_frame _ _ _ _ hfresh, List.getElem?_append_left hj, List.getElem?_eq_getElem hj]

theorem override_shares_nothing (h : Heap) (m : LModel) (r : Rule) (hm : ∀ i ∈ m, i < h.length) :
    ∀ i ∈ (overrideClone h m r).2, i ∉ m :=
  fun i hi hmem => Nat.not_le_of_lt (hm i hmem) (clone_fresh h m i hi)

private theorem overrideAll_eq (h : Heap) (steps : List (LModel × Rule)) :
    overrideAll h steps = (finalState (fun h s => overrideClone h s.1 s.2) h steps,
      outputs (fun h s => overrideClone h s.1 s.2) h steps) :=
  foldl_collect_nil (fun h (s : LModel × Rule) => overrideClone h s.1 s.2) steps h

private theorem overrideAll_prefix (h : Heap) (steps : List (LModel × Rule)) : h <+: (overrideAll h steps).1 := by
  rw [overrideAll_eq]
  induction steps generalizing h with
  | nil => exact List.prefix_refl h
  | cons s steps ih => exact (override_prefix h s.1 s.2).trans (ih _)

private theorem rulesOf_prefix {h h' : Heap} (hh : h <+: h') (m : LModel) (hm : ∀ i ∈ m, i < h.length) :
    rulesOf h' m = rulesOf h m := by
  obtain ⟨t, rfl⟩ := hh
  unfold rulesOf
  exact congrArg _ (List.filterMap_congr fun i hi => List.getElem?_append_left (hm i hi))

/-- the user's model is never modified: its ReLU sites route to the same rules after any construction history -/
theorem user_model_untouched (h : Heap) (m : LModel) (steps : List (LModel × Rule)) (hm : ∀ i ∈ m, i < h.length) :
    rulesOf (overrideAll h steps).1 m = rulesOf h m :=
  rulesOf_prefix (overrideAll_prefix h steps) m hm

theorem overrideAll_append (h : Heap) (s1 s2 : List (LModel × Rule)) :
    (overrideAll h (s1 ++ s2)).1 = (overrideAll (overrideAll h s1).1 s2).1 := by
  rw [overrideAll_eq, overrideAll_eq, overrideAll_eq]
  exact List.foldl_append

/-- an explainer created earlier is unaffected by explainers created later: the clone made by a construction
    keeps its rules whatever is constructed afterwards -/
theorem earlier_explainer_unaffected (h : Heap) (m : LModel) (r : Rule) (later : List (LModel × Rule)) :
    let c := overrideClone h m r
    rulesOf (overrideAll c.1 later).1 c.2 = rulesOf c.1 c.2 := by
  refine rulesOf_prefix (overrideAll_prefix _ later) _ fun i hi => ?_
  rw [overrideClone_length]
  exact (List.mem_range'_1.mp hi).2

/-- a variant that shares the weight-less ReLU layer objects between the clone and the user's model (tempting, since
    they hold no weights) violates the property: re-routing the clone re-routes the user's model -/
theorem Witness.shared_override_changes_user :
    ∃ (h : Heap) (m : LModel) (r : Rule), rulesOf (overrideShared h m r).1 m ≠ rulesOf h m :=
  ⟨[⟨true, .plain⟩], [0], .guided, by decide⟩

-- non-vacuity: a model with two ReLU sites, a DeconvNet then a GuidedBackprop built on it
example : rulesOf (overrideAll [⟨false, .plain⟩, ⟨true, .plain⟩, ⟨true, .plain⟩] [([0, 1, 2], .deconv), ([0, 1, 2], .guided)]).1
    [0, 1, 2] = [.plain, .plain] := by decide
example : (overrideAll [⟨false, .plain⟩, ⟨true, .plain⟩, ⟨true, .plain⟩] [([0, 1, 2], .deconv), ([0, 1, 2], .guided)]).2
    = [[3, 4, 5], [6, 7, 8]] := by decide
example : rulesOf (overrideAll [⟨false, .plain⟩, ⟨true, .plain⟩, ⟨true, .plain⟩] [([0, 1, 2], .deconv), ([0, 1, 2], .guided)]).1
    [3, 4, 5] = [.deconv, .deconv] := by decide

end Xp.Hist
