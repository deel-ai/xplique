/-
  C02 — the explained function is the one selected by operator / output_layer / targets.

  Decision logic of operator resolution and of output_layer (REPAIRED constructor;
  `Witness.output_layer_ignored` shows the pre-fix behaviour violates the property), and the
  algebra of the built-in task operators (segmentation zone mean, IoU, D-RISE).
-/
import XpModel.Operators
import XpProofs.Lemmas.Vec
import XpProofs.Lemmas.MinMax
import Mathlib.Algebra.Order.Field.Basic

namespace Xp.Op

/-- **documented aliases** — every task name resolves to its documented operator -/
theorem resolve_table :
    resolve (.name "classification") = .predictions ∧
    resolve (.name "regression") = .predictions ∧
    resolve (.name "semantic segmentation") = .segmentation ∧
    resolve (.name "object detection") = .detection true true ∧
    resolve (.name "object detection box position") = .detection false false ∧
    resolve (.name "object detection box proba") = .detection true false ∧
    resolve (.name "object detection box class") = .detection false true ∧
    resolve .none = .predictions := by decide +kernel

theorem resolve_task_eq_name (s : String) (t : Task) (h : fromString s = some t) :
    resolve (.name s) = resolve (.task t) := by simp only [resolve, h]

theorem resolve_unknown_name (s : String) (h : fromString s = none) : resolve (.name s) = .error := by
  simp only [resolve, h]

/-- a custom callable is used as is iff it takes at least the three arguments (f, x, y) -/
theorem resolve_custom (id n : Nat) : resolve (.custom id n) = (if 3 ≤ n then .custom id else .error) := by
  simp only [resolve, ← Nat.not_le, ite_not]

/-- **black-box methods and metrics**: as soon as an operator is given it is the one scored,
    whatever the kind of model object -/
theorem dispatch_operator_given (k : ModelKind) (a : OpArg) (h : a ≠ .none) :
    inferenceOf k a = .op (resolve a) := by
  cases a with
  | none => exact absurd rfl h
  | _ => rfl

/-- default: TF-callable models are scored with `Σ model(x)·targets`, anything else through the
    NumPy one-hot path (same formula on `predict_proba` / `__call__` outputs, see C11) -/
theorem dispatch_default (k : ModelKind) :
    inferenceOf k .none = (match k with
      | .keras | .tfModule | .layer | .torchWrapper => .op .predictions
      | _ => .oneHotCallable) := by cases k <;> rfl

/-- **white-box methods**: the differentiated function is the resolved operator; without an
    operator gradients exist for Keras models (and the torch wrapper) only -/
theorem gradient_operator_given (k : ModelKind) (a : OpArg) (h : a ≠ .none) :
    gradientOf k a = some (resolve a) := by
  cases a with
  | none => exact absurd rfl h
  | _ => rfl

theorem findLayer_nonneg (names : List String) (i : Nat) (h : i < names.length) :
    findLayer names (.byIndex i) = some i := by
  simp only [findLayer]
  rw [if_pos ⟨Int.natCast_nonneg i, Int.ofNat_lt.mpr h⟩, Int.toNat_natCast]

/-- Python negative indexing: `-k` is the k-th layer from the end -/
theorem findLayer_neg (names : List String) (k : Nat) (h1 : 1 ≤ k) (h2 : k ≤ names.length) :
    findLayer names (.byIndex (-(k : Int))) = some (names.length - k) := by
  have hk : -(k : Int) < 0 := neg_lt_zero.mpr (Int.natCast_pos.mpr h1)
  simp only [findLayer]
  rw [if_neg fun h => absurd h.1 (not_le.mpr hk), if_pos ⟨neg_le_neg (Int.ofNat_le.mpr h2), hk⟩,
    ← sub_eq_add_neg, Int.toNat_sub]

theorem findLayer_name (names : List String) (s : String) (i : Nat)
    (h : findLayer names (.byName s) = some i) : names[i]? = some s := by
  obtain ⟨hi, hp, _⟩ := List.findIdx?_eq_some_iff_getElem.mp h
  rw [List.getElem?_eq_getElem hi, of_decide_eq_true hp]

/-- **output_layer (repaired constructor)** — a white-box explainer built with `output_layer = L`
    explains exactly the model truncated at layer `L` (given by name, index or negative index):
    its output is the activation of layer `L`, layers after `L` play no role. -/
theorem whitebox_truncates {α : Type} (names : List String) (layers : List (α → α)) (r : LayerRef)
    (l : Nat) (h : findLayer names r = some l) :
    explainedLayers names layers (some r) = some (layers.take (l + 1)) := by
  show Option.map _ (findLayer names r) = _
  rw [h]
  rfl

theorem whitebox_truncated_forward {α : Type} (layers : List (α → α)) (l : Nat) (f : α → α) (x : α)
    (h : layers[l]? = some f) : forward (layers.take (l + 1)) x = f (forward (layers.take l) x) := by
  unfold forward
  rw [List.take_add_one, h, List.foldl_append]
  rfl

theorem whitebox_default {α : Type} (names : List String) (layers : List (α → α)) :
    explainedLayers names layers none = some layers := rfl

/-- **witness**: the constructor before the fix explained the FULL model although a layer was
    requested: layers `[(+1), (*2)]`, `output_layer = 0`, input `1` gave `4` where the truncated
    model gives `2`. -/
theorem Witness.output_layer_ignored :
    ((explainedLayersOld ["a", "b"] [(· + 1), (· * 2)] (some (.byIndex 0))).map (forward · (1 : Nat))) = some 4 ∧
    ((explainedLayers ["a", "b"] [(· + 1), (· * 2)] (some (.byIndex 0))).map (forward · (1 : Nat))) = some 2 := by
  decide

/-- what the old constructor did satisfy: correct when no layer is requested -/
theorem whitebox_old_partial {α : Type} (names : List String) (layers : List (α → α)) :
    explainedLayersOld names layers none = explainedLayers names layers none := rfl

def zoneSum : List Rat → List Rat → Rat
  | p :: ps, t :: ts => (if t = 1 then p else 0) + zoneSum ps ts
  | _, _ => 0

private theorem dot_zone (pred t : List Rat) (ht : ∀ v ∈ t, v = 0 ∨ v = 1) : dot pred t = zoneSum pred t := by
  unfold dot
  induction pred generalizing t with
  | nil => rfl
  | cons p ps ih =>
    cases t with
    | nil => rfl
    | cons v vs =>
      rw [List.zipWith_cons_cons, sumQ_cons, zoneSum, ih vs fun w hw => ht w (List.mem_cons_of_mem _ hw)]
      rcases ht v List.mem_cons_self with rfl | rfl
      · rw [mul_zero, if_neg zero_ne_one]
      · rw [mul_one, if_pos rfl]

/-- **semantic segmentation** — for a 0/1 target mask the score is the mean prediction over the
    target zone (the zone must be non-empty, else the implementation divides 0 by 0) -/
theorem seg_is_zone_mean (pred t : List Rat) (ht : ∀ v ∈ t, v = 0 ∨ v = 1) (hne : countNonzero t ≠ 0) :
    segScore pred t = some (zoneSum pred t / (countNonzero t : Rat)) := by
  unfold segScore
  rw [if_neg hne, dot_zone pred t ht]

theorem seg_empty_zone (pred t : List Rat) (h : countNonzero t = 0) : segScore pred t = none := by
  unfold segScore
  rw [if_pos h]

def overlap (a1 a2 b1 b2 : Rat) : Rat := max (min a2 b2 - max a1 b1) 0

private theorem inter_eq (a b : Box) :
    inter a b = overlap a.x1 a.x2 b.x1 b.x2 * overlap a.y1 a.y2 b.y1 b.y2 := by
  simp only [inter, overlap, ratMax_eq, ratMin_eq]

section overlap
variable (a1 a2 b1 b2 : Rat)

private theorem overlap_nonneg : 0 ≤ overlap a1 a2 b1 b2 := le_max_right _ _

private theorem overlap_comm : overlap a1 a2 b1 b2 = overlap b1 b2 a1 a2 := by
  unfold overlap
  rw [min_comm, max_comm a1]

private theorem overlap_le (h : a1 ≤ a2) : overlap a1 a2 b1 b2 ≤ a2 - a1 :=
  max_le (sub_le_sub (min_le_left _ _) (le_max_left _ _)) (sub_nonneg.mpr h)

private theorem overlap_self (h : a1 ≤ a2) : overlap a1 a2 a1 a2 = a2 - a1 := by
  unfold overlap
  rw [min_self, max_self, max_eq_left (sub_nonneg.mpr h)]

private theorem overlap_disjoint (h : a2 ≤ b1) : overlap a1 a2 b1 b2 = 0 :=
  max_eq_right (sub_nonpos.mpr ((min_le_left _ _).trans (h.trans (le_max_right _ _))))
end overlap

theorem inter_nonneg (a b : Box) : 0 ≤ inter a b := by
  rw [inter_eq]
  exact mul_nonneg (overlap_nonneg ..) (overlap_nonneg ..)

theorem inter_comm (a b : Box) : inter a b = inter b a := by
  rw [inter_eq, inter_eq, overlap_comm, overlap_comm a.y1]

theorem inter_le_area_left (a b : Box) (ha : a.wf) : inter a b ≤ a.area := by
  rw [inter_eq]
  exact mul_le_mul (overlap_le _ _ _ _ ha.1) (overlap_le _ _ _ _ ha.2) (overlap_nonneg ..) (sub_nonneg.mpr ha.1)

/-- **IoU bounds** — for well-formed boxes the score lies in `[0, 1)` -/
theorem iou_bounds (ε : Rat) (hε : 0 < ε) (a b : Box) (ha : a.wf) (hb : b.wf) :
    0 ≤ boxIoU ε a b ∧ boxIoU ε a b < 1 := by
  unfold boxIoU
  have h0 := inter_nonneg a b
  have h1 := inter_le_area_left a b ha
  have h2 := inter_le_area_left b a hb
  rw [inter_comm b a] at h2
  have hlt := lt_add_of_le_of_pos (le_sub_iff_add_le.mpr (add_le_add h1 h2)) hε
  exact ⟨div_nonneg h0 (h0.trans hlt.le), (div_lt_one (h0.trans_lt hlt)).mpr hlt⟩

theorem iou_symm (ε : Rat) (a b : Box) : boxIoU ε a b = boxIoU ε b a := by
  unfold boxIoU
  rw [inter_comm a b, add_comm a.area]

/-- boxes separated along x do not overlap: IoU = 0 -/
theorem iou_disjoint (ε : Rat) (a b : Box) (h : a.x2 ≤ b.x1) : boxIoU ε a b = 0 := by
  unfold boxIoU
  rw [inter_eq, overlap_disjoint _ _ _ _ h, zero_mul, zero_div]

theorem iou_self (ε : Rat) (a : Box) (ha : a.wf) : boxIoU ε a a = a.area / (a.area + ε) := by
  unfold boxIoU
  rw [inter_eq, overlap_self _ _ ha.1, overlap_self _ _ ha.2]
  show a.area / (a.area + a.area - a.area + ε) = _
  rw [add_sub_cancel_right]

/-- dropping the objectness factor = objectness ≡ 1 -/
theorem drise_drop_prob (ε : Rat) (ic : Bool) (r p : Obj) :
    pairScore ε false ic r p = pairScore ε true ic r { p with prob := 1 } :=
  rfl

/-- dropping both factors leaves the IoU alone ("box position" variant) -/
theorem drise_box_position (ε : Rat) (r p : Obj) : pairScore ε false false r p = boxIoU ε r.box p.box :=
  (mul_one _).trans (mul_one _)

/-- full score: IoU × objectness × class cosine -/
theorem drise_full (ε : Rat) (r p : Obj) :
    pairScore ε true true r p = boxIoU ε r.box p.box * p.prob * (dot r.cls p.cls / (p.nrm * r.nrm + ε)) :=
  rfl

/-- several reference boxes: the mean of their best pair scores -/
theorem drise_mean_of_max (ε : Rat) (ip ic : Bool) (refs preds : List Obj) (hp : preds ≠ []) (hr : refs ≠ []) :
    driseScore ε ip ic refs preds
      = some (sumQ (refs.map fun r => (maxList (preds.map (pairScore ε ip ic r))).getD 0) / (refs.length : Rat)) := by
  simp only [driseScore, if_neg hp, if_neg hr, List.length_map]

/-- one reference box: the score is the best pair score -/
theorem drise_single_ref (ε : Rat) (ip ic : Bool) (r : Obj) (p : Obj) (ps : List Obj) :
    driseScore ε ip ic [r] (p :: ps) = some (((p :: ps).map (pairScore ε ip ic r)).tail.foldl ratMax (pairScore ε ip ic r p)) := by
  rw [drise_mean_of_max ε ip ic [r] (p :: ps) (List.cons_ne_nil _ _) (List.cons_ne_nil _ _)]
  -- the mean of the one value `x` is `(x + 0) / 1`
  show some ((_ + 0) / ((1 : Nat) : Rat)) = _
  rw [add_zero, Nat.cast_one, div_one]
  rfl

/-- no predicted box: score 0 (as the code) -/
theorem drise_no_prediction (ε : Rat) (ip ic : Bool) (refs : List Obj) : driseScore ε ip ic refs [] = some 0 :=
  if_pos rfl

-- non-vacuity
example : (Box.mk 0 0 2 2).wf ∧ (Box.mk 1 1 3 3).wf := by simp [Box.wf]
example : boxIoU (1/10000) ⟨0, 0, 2, 2⟩ ⟨1, 1, 3, 3⟩ = 1 / (7 + 1/10000) := by decide +kernel
example : segScore [1/2, 1/4, 3/4, 1] [1, 0, 1, 0] = some (5/8) := by decide +kernel
example : findLayer ["in", "logits", "sm"] (.byIndex (-2)) = some 1 := by decide
example : findLayer ["in", "logits", "sm"] (.byName "logits") = some 1 := by decide

end Xp.Op
