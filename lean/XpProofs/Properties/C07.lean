/-
  C07 — Lime fits its interpretable model on exactly the (sample, score of the masked input) pairs it
  evaluated, weighted by κ(D²/width²); KernelShap draws coalitions of size 1..F−1 with
  P(k) ∝ (F−1)/(k(F−k)) and is exact on additive scores.

  `Lime.fitData` / `Lime.explainOne` are the executable model of `Lime.explain`, `Lime.specTriples` /
  `Lime.maskedSpec` the reference definition; `LinReg.wlsFit` is the exact solver used by the driver.
  Parameters (assumptions about TF / sklearn): the score is per-sample (`score zs = zs.map f`), `κ`
  stands for `exp(−·)`, the interpretable model `fit` is an arbitrary function (its result enters
  only through the minimiser hypotheses), the draws are inputs.
-/
import XpModel.Lime
import XpProofs.Lemmas.SqDist
import XpModel.LinReg
import XpProofs.Lemmas.Batching
import XpProofs.Lemmas.Vec
import XpProofs.Lemmas.Lime
import XpProofs.Lemmas.LinReg
import XpProofs.Lemmas.KernelShap
import Mathlib.Algebra.Order.Field.Rat
import Mathlib.Tactic.NormNum.Basic

open Finset BigOperators
namespace Xp.Lime

/-- **num_features** (about the GENERATED `max + 1`): every segment id of the mapping is a valid
    column of the samples, and the largest id is the last column. -/
theorem lime_num_features_spec (mapping : List Nat) :
    numFeatures mapping = mapping.foldl max 0 + 1 ∧ ∀ j ∈ mapping, j < numFeatures mapping := by
  have h1 : numFeatures mapping = mapping.foldl max 0 + 1 := Int.toNat_natCast_add_one
  refine ⟨h1, fun j hj => ?_⟩
  rw [h1]
  exact Nat.lt_succ_of_le
    ((List.max?_le_iff (List.max?_cons' (x := 0))).mp le_rfl j (List.mem_cons_of_mem 0 hj))

/-- **Data flow (C07 main theorem, Lime part)** — for every chunk size (`batch_size = none` or any
    `b ≥ 1`), every per-sample score, kernel shape `κ(D²/width²)` and distance `d2`, every
    well-shaped input and all drawn BINARY samples: what is handed to `fit` is exactly, in order,
    the drawn sample, the score of the input masked by it and the kernel weight of that masked
    input; the model was queried on exactly these masked inputs. Nothing is dropped, duplicated or
    mis-paired across chunks. -/
theorem lime_dataflow (cfg : Cfg) (f : List Rat → Rat) (score : List (List Rat) → List Rat)
    (hscore : ∀ zs, score zs = zs.map f) (κ : Rat → Rat) (width : Rat)
    (d2 : List Rat → List Rat → Rat) (bs : Option Nat) (hbs : ∀ b, bs = some b → 0 < b)
    (nb : Nat) (hnb : 0 < nb) (x : List Rat) (hshape : x.length = cfg.mapping.length * cfg.c)
    (samples : List (List Rat)) (hbin : ∀ s ∈ samples, Binary s) :
    let d := fitData cfg score (expKernel κ width d2) (effBatch bs nb) x samples
    d.design = samples
      ∧ d.targets = samples.map (fun s => f (maskedSpec cfg x s))
      ∧ d.weights = samples.map (fun s => weightOf κ width (d2 x (maskedSpec cfg x s)))
      ∧ d.queries.flatten = samples.map (maskedSpec cfg x)
      ∧ List.zip d.design (List.zip d.targets d.weights) = specTriples cfg f κ width d2 x samples := by
  intro d
  have hb := effBatch_pos bs hbs nb hnb
  have hd : d = _ := fitData_eq_map cfg f score hscore κ width d2 _ hb x samples
  -- on binary samples the masked inputs of the model are those of the reference definition
  have hg : ∀ s ∈ samples, applyMask cfg x (getMask cfg.mapping s) = maskedSpec cfg x s :=
    fun s hs => applyMask_eq_spec cfg x s hshape (hbin s hs)
  have e2 : d.targets = samples.map fun s => f (maskedSpec cfg x s) :=
    hd ▸ List.map_congr_left fun s hs => congrArg f (hg s hs)
  have e3 : d.weights = samples.map fun s => weightOf κ width (d2 x (maskedSpec cfg x s)) :=
    hd ▸ List.map_congr_left fun s hs => congrArg (fun z => weightOf κ width (d2 x z)) (hg s hs)
  refine ⟨hd ▸ rfl, e2, e3, ?_, ?_⟩
  · rw [hd, ← List.flatMap_def, flatMap_batches_map _ hb]
    exact List.map_congr_left hg
  · rw [e2, e3, hd, specTriples, List.zip_map', ← List.map_prod_left_eq_zip]

/-- **Batch-size independence** (the Lime case of C03): with the same drawn samples the explanation is
    the same for `batch_size = b ≥ 1` and `batch_size = None`, whatever the interpretable model. -/
theorem lime_bs_indep (cfg : Cfg) (f : List Rat → Rat) (score : List (List Rat) → List Rat)
    (hscore : ∀ zs, score zs = zs.map f) (κ : Rat → Rat) (width : Rat)
    (d2 : List Rat → List Rat → Rat) (fit : List (List Rat) → List Rat → List Rat → List Rat)
    (b : Nat) (hb : 0 < b) (nb : Nat) (hnb : 0 < nb) (x : List Rat) (samples : List (List Rat)) :
    explainOne cfg score (expKernel κ width d2) fit (some b) nb x samples
      = explainOne cfg score (expKernel κ width d2) fit none nb x samples := by
  simp only [explainOne, effBatch, fitData_eq_map cfg f score hscore κ width d2 _ hb,
    fitData_eq_map cfg f score hscore κ width d2 _ hnb]

/-- **Explanation = fit on the reference triples, broadcast to the segments** (every batch size) -/
theorem lime_explain_eq_spec (cfg : Cfg) (f : List Rat → Rat) (score : List (List Rat) → List Rat)
    (hscore : ∀ zs, score zs = zs.map f) (κ : Rat → Rat) (width : Rat)
    (d2 : List Rat → List Rat → Rat) (fit : List (List Rat) → List Rat → List Rat → List Rat)
    (bs : Option Nat) (hbs : ∀ b, bs = some b → 0 < b) (nb : Nat) (hnb : 0 < nb) (x : List Rat)
    (hshape : x.length = cfg.mapping.length * cfg.c) (samples : List (List Rat))
    (hbin : ∀ s ∈ samples, Binary s) :
    explainOne cfg score (expKernel κ width d2) fit bs nb x samples
      = cfg.mapping.map fun j =>
          (fit samples (samples.map fun s => f (maskedSpec cfg x s))
            (samples.map fun s => weightOf κ width (d2 x (maskedSpec cfg x s)))).getD j 0 := by
  obtain ⟨h1, h2, h3, _, _⟩ :=
    lime_dataflow cfg f score hscore κ width d2 bs hbs nb hnb x hshape samples hbin
  unfold explainOne broadcast
  simp only [h1, h2, h3]

/-- no chunk handed to the model exceeds the batch size ("batch_size only bounds memory") -/
theorem lime_calls_le_bs (cfg : Cfg) (score : List (List Rat) → List Rat)
    (kern : List Rat → List (List Rat) → List Rat) (b : Nat) (x : List Rat)
    (samples : List (List Rat)) :
    ∀ q ∈ (fitData cfg score kern b x samples).queries, q.length ≤ b := by
  intro q hq
  simp only [fitData, List.mem_map] at hq
  obtain ⟨r, ⟨ch, hch, rfl⟩, rfl⟩ := hq
  simp only [evalChunk, List.length_map]
  exact (batch_len_le b samples ch hch).1

/-- **normal equations ⇒ minimiser** — ridge with diagonal penalty `p ≥ 0` (`p = α` on the
    coefficients, `0` on the intercept column; `α = 0` is ordinary least squares), weights `≥ 0`:
    a vector solving `(XᵀWX + diag p) b = XᵀW y` minimises `Σ_s w_s (y_s − ⟪b, X_s⟫)² + Σ_j p_j b_j²`. -/
theorem normal_eq_is_minimiser (n m : ℕ) (w : ℕ → ℚ) (X : ℕ → ℕ → ℚ) (y p b : ℕ → ℚ)
    (hw : ∀ s, 0 ≤ w s) (hp : ∀ j, 0 ≤ p j)
    (h : ∀ k ∈ range m,
      ∑ j ∈ range m, ((∑ s ∈ range n, w s * X s k * X s j) + (if k = j then p k else 0)) * b j
        = ∑ s ∈ range n, w s * X s k * y s) (b' : ℕ → ℚ) :
    LinReg.ploss n m w X y p b ≤ LinReg.ploss n m w X y p b' :=
  LinReg.ploss_minimiser (fun s _ => hw s) (fun j _ => hp j) (LinReg.normalEq_of_matrix h) b'

/-- **the driver's exact solver returns a minimiser of the documented objective**
    `Σ w_s (y_s − ⟪β, z_s⟫ − c)² + α‖β‖²` (list-level, what op "wls" computes) -/
theorem wls_solver_is_minimiser (alpha : ℚ) (halpha : 0 ≤ alpha) (F : ℕ) (Z : List (List ℚ))
    (y w bc : List ℚ) (hw : ∀ v ∈ w, 0 ≤ v) (h : LinReg.wlsFit alpha F Z y w = some bc)
    (bc' : List ℚ) :
    LinReg.loss alpha F Z y w bc ≤ LinReg.loss alpha F Z y w bc' := by
  rw [LinReg.loss_eq_ploss, LinReg.loss_eq_ploss]
  exact LinReg.ploss_minimiser (fun s _ => getD_forall (P := (0 ≤ ·)) le_rfl hw s)
    (fun j _ => LinReg.penFn_nonneg halpha F j) (LinReg.wlsFit_normalEq alpha F Z y w bc h) _

/-- **exactness on linear data**: positive weights, full column rank, exactly linear targets ⇒ every
    minimiser of the unpenalised weighted loss is the generating coefficient vector. -/
theorem ols_exact (n m : ℕ) (w : ℕ → ℚ) (hw : ∀ s ∈ range n, 0 < w s) (X : ℕ → ℕ → ℚ)
    (β y : ℕ → ℚ) (hy : ∀ s ∈ range n, y s = ∑ j ∈ range m, β j * X s j)
    (hr : LinReg.FullRank n m X) (b : ℕ → ℚ)
    (hmin : ∀ b', LinReg.ploss n m w X y (fun _ => 0) b ≤ LinReg.ploss n m w X y (fun _ => 0) b') :
    ∀ j ∈ range m, b j = β j :=
  -- `β` leaves no residual, so it solves the normal equations
  LinReg.ploss_minimiser_unique hw (fun _ _ => le_rfl) hr
    (fun k _ => by
      rw [zero_mul]
      exact sum_eq_zero fun s hs => by rw [LinReg.res, hy s hs, sub_self, mul_zero, zero_mul])
    (hmin β)

/-- **coalitions have exactly k ∈ 1..F−1 active features** (distinct normal draws, drawn index
    `1 ≤ k < F`): `sample = vals > vals[argsortDesc vals [k]]` has exactly `k` ones. -/
theorem kshap_topk_count (vals : List ℚ) (hnd : vals.Nodup) (k : ℕ) (hk1 : 1 ≤ k)
    (hk : k < vals.length) :
    countOnes (kshapSample vals k) = k ∧ 1 ≤ countOnes (kshapSample vals k)
      ∧ countOnes (kshapSample vals k) ≤ vals.length - 1 ∧ Binary (kshapSample vals k)
      ∧ (kshapSample vals k).length = vals.length := by
  rw [kshapSample_count vals hnd k hk]
  refine ⟨rfl, hk1, Nat.le_sub_one_of_lt hk, fun v hv => ?_, List.length_map _⟩
  obtain ⟨a, _, rfl⟩ := List.mem_map.mp hv
  exact (ite_eq_or_eq _ _ _).symm

/-- **coalition-size distribution** (about the GENERATED numerator / denominator): index 0 has
    probability 0 (never drawn), and for `1 ≤ k < F` the unnormalised probability is
    `(F−1)/(k(F−k))` = Shapley kernel × number of coalitions of size `k`. -/
theorem kshap_probs (F : ℕ) (hF : 1 ≤ F) :
    kshapProbs F = (List.range F).map (probSpec F) ∧ probSpec F 0 = 0
      ∧ ∀ k, 1 ≤ k → k < F →
          probSpec F k = ((F : ℚ) - 1) / ((k : ℚ) * ((F : ℚ) - (k : ℚ)))
          ∧ probSpec F k = shapleyKernel F k * (Nat.choose F k : ℚ) ∧ 0 < probSpec F k := by
  refine ⟨kshapProbs_eq_spec F hF, if_pos rfl, fun k hk hkF => ?_⟩
  have h : probSpec F k = ((F : ℚ) - 1) / ((k : ℚ) * ((F : ℚ) - (k : ℚ))) :=
    if_neg (Nat.pos_iff_ne_zero.mp hk)
  refine ⟨h, h.trans (shapleyKernel_mul_choose F k hkF.le).symm, ?_⟩
  rw [h]
  have hkF' : (k : ℚ) < F := Nat.cast_lt.mpr hkF
  have hk' : (1 : ℚ) ≤ k := Nat.one_le_cast.mpr hk
  exact div_pos (sub_pos.mpr (hk'.trans_lt hkF')) (mul_pos (zero_lt_one.trans_le hk') (sub_pos.mpr hkF'))

/-- **KernelShap is exact on additive scores.** Cells `i < P` with segment `seg i < F`, additive
    score `f z = Σ wt_i z_i + c0`, `n` drawn coalitions `S s` (any values), targets = scores of the
    masked inputs `x·m + (1−m)·ref`, positive weights, design `(S | 1)` of full column rank: every
    minimiser `b` of the weighted least-squares loss has `b_j = Σ_{i ∈ segment j} wt_i (x_i − ref_i)`
    (the Shapley value; `wt_j (x_j − ref_j)` for the identity map) and `Σ_j b_j = f x − f ref`. -/
theorem kshap_additive_exact (P F n : ℕ) (seg : ℕ → ℕ) (hseg : ∀ i ∈ range P, seg i < F)
    (wt x ref : ℕ → ℚ) (c0 : ℚ) (S : ℕ → ℕ → ℚ) (w : ℕ → ℚ) (hw : ∀ s ∈ range n, 0 < w s)
    (y : ℕ → ℚ)
    (hy : ∀ s ∈ range n,
      y s = (∑ i ∈ range P, wt i * (x i * S s (seg i) + (1 - S s (seg i)) * ref i)) + c0)
    (hr : LinReg.FullRank n (F + 1) fun s j => if j < F then S s j else 1)
    (b : ℕ → ℚ)
    (hmin : ∀ b', LinReg.ploss n (F + 1) w (fun s j => if j < F then S s j else 1) y (fun _ => 0) b
                ≤ LinReg.ploss n (F + 1) w (fun s j => if j < F then S s j else 1) y (fun _ => 0) b') :
    (∀ j ∈ range F, b j = ∑ i ∈ range P, if seg i = j then wt i * (x i - ref i) else 0)
      ∧ ∑ j ∈ range F, b j
          = ((∑ i ∈ range P, wt i * x i) + c0) - ((∑ i ∈ range P, wt i * ref i) + c0) := by
  have hb := ols_exact n (F + 1) w hw _ (addCoef P F seg wt x ref c0) y
    (fun s hs => (hy s hs).trans (additive_linear P F seg hseg wt x ref c0 (S s))) hr b hmin
  have hbj : ∀ j ∈ range F, b j = ∑ i ∈ range P, if seg i = j then wt i * (x i - ref i) else 0 :=
    fun j hj => (hb j (mem_range.mpr (Nat.lt_succ_of_lt (mem_range.mp hj)))).trans
      (addCoef_lt (mem_range.mp hj))
  refine ⟨hbj, ?_⟩
  rw [sum_congr rfl hbj, sum_seg hseg, add_sub_add_right_eq_sub]
  simp only [mul_sub, sum_sub_distrib]

/-- **KernelShap on the executable model (end to end)**: additive score `⟪wt, z⟫ + c0`, positive
    kernel (KernelShap: constant 1), an interpretable model that returns a minimiser of the
    unpenalised weighted least-squares objective (assumption on sklearn `LinearRegression`), drawn
    samples whose design `(Z|1)` has full column rank: for EVERY batch size the explanation of each
    cell is the Shapley value of its segment, `Σ_{i ∈ segment} wt_i (x_i − ref_i)`. -/
theorem kshap_model_exact (cfg : Cfg) (wt : List ℚ) (c0 : ℚ)
    (score : List (List ℚ) → List ℚ) (hscore : ∀ zs, score zs = zs.map fun z => dot wt z + c0)
    (κ : ℚ → ℚ) (hκ : ∀ t, 0 < κ t) (width : ℚ) (d2 : List ℚ → List ℚ → ℚ)
    (fit : List (List ℚ) → List ℚ → List ℚ → List ℚ) (F : ℕ)
    (hfit : ∀ Z y w, (∀ v ∈ w, 0 ≤ v) →
      ∀ bc', LinReg.loss 0 F Z y w (fit Z y w) ≤ LinReg.loss 0 F Z y w bc')
    (bs : Option Nat) (hbs : ∀ b, bs = some b → 0 < b) (nb : Nat) (hnb : 0 < nb) (x : List ℚ)
    (hshape : x.length = cfg.mapping.length * cfg.c) (hwt : wt.length = x.length)
    (samples : List (List ℚ)) (hmap : ∀ j ∈ cfg.mapping, j < F)
    (hrank : LinReg.FullRank samples.length (F + 1) (LinReg.Xf F samples)) :
    explainOne cfg score (expKernel κ width d2) fit bs nb x samples
      = broadcast cfg.mapping (shapleySeg cfg wt x F) := by
  rw [explainOne, fitData_eq_map cfg _ score hscore κ width d2 _ (effBatch_pos bs hbs nb hnb)]
  -- `T`, `W`: the targets and weights that `fit` receives
  generalize hT : (samples.map fun s => dot wt (applyMask cfg x (getMask cfg.mapping s)) + c0) = T
  generalize hW :
    (samples.map fun s => weightOf κ width (d2 x (applyMask cfg x (getMask cfg.mapping s)))) = W
  have hWpos : ∀ s ∈ range samples.length, 0 < LinReg.vecFn W s := fun s hs => by
    rw [← hW, LinReg.vecFn, getD_map_of_lt _ _ [] (mem_range.mp hs)]; exact hκ _
  have hW0 : ∀ v ∈ W, 0 ≤ v := fun v hv => by
    rw [← hW] at hv; obtain ⟨s, _, rfl⟩ := List.mem_map.mp hv; exact (hκ _).le
  -- the fitted problem read through index functions is an instance of `kshap_additive_exact`
  have hsol := (kshap_additive_exact (P := x.length) (F := F) (n := samples.length)
    (seg := fun i => cfg.mapping.getD (i / cfg.c) 0)
    (hseg := fun i hi => hmap _ (getD_mem _ 0 (cell_lt hshape (mem_range.mp hi))))
    (wt := fun i => wt.getD i 0) (x := fun i => x.getD i 0) (ref := fun i => cfg.ref.getD (i % cfg.c) 0)
    (c0 := c0) (S := fun s j => (samples.getD s []).getD j 0)
    (w := LinReg.vecFn W) (hw := hWpos) (y := LinReg.vecFn T)
    (hy := fun s hs => by
      rw [← hT, LinReg.vecFn, getD_map_of_lt _ _ [] (mem_range.mp hs), dot_eq_sum, hwt]
      exact congrArg (· + c0) (sum_congr rfl fun i hi =>
        congrArg _ (applyMask_getD cfg x _ hshape i (mem_range.mp hi))))
    (hr := hrank) (b := LinReg.vecFn (fit samples T W))
    (hmin := fun b' => by
      -- `fit` minimises over lists; a coefficient function is compared through its first `F + 1` values
      have h := hfit samples T W hW0 ((List.range (F + 1)).map b')
      rwa [LinReg.loss_eq_ploss, LinReg.loss_eq_ploss, LinReg.penFn_zero,
        LinReg.ploss_congr (b := LinReg.vecFn ((List.range (F + 1)).map b')) (b' := b')
          fun j hj => getD_range_map _ _ j (mem_range.mp hj)] at h)).1
  refine List.map_congr_left fun j hj => ?_
  rw [shapleySeg, getD_range_map _ _ j (hmap j hj), sumQ_range]
  exact hsol j (mem_range.mpr (hmap j hj))

/-- **efficiency on the executable model**: the segment Shapley values sum to
    `score(x) − score(all-reference input)` -/
theorem kshap_model_efficiency (cfg : Cfg) (wt : List ℚ) (c0 : ℚ) (x : List ℚ) (F : ℕ)
    (hshape : x.length = cfg.mapping.length * cfg.c) (hwt : wt.length = x.length)
    (hmap : ∀ j ∈ cfg.mapping, j < F) :
    sumQ (shapleySeg cfg wt x F)
      = (dot wt x + c0) - (dot wt (maskedSpec cfg x (List.replicate F 0)) + c0) := by
  have hseg : ∀ i ∈ range x.length, cfg.mapping.getD (i / cfg.c) 0 < F :=
    fun i hi => hmap _ (getD_mem _ 0 (cell_lt hshape (mem_range.mp hi)))
  -- the all-zero sample keeps no cell: its masked input is the reference
  have href : ∀ i ∈ range x.length,
      (maskedSpec cfg x (List.replicate F 0)).getD i 0 = cfg.ref.getD (i % cfg.c) 0 := fun i hi => by
    rw [maskedSpec_getD cfg x _ i (mem_range.mp hi), if_neg]
    exact ne_of_eq_of_ne (getD_forall (P := (· = 0)) rfl (fun _ => List.eq_of_mem_replicate) _) zero_ne_one
  simp only [shapleySeg, sumQ_range]
  rw [sum_seg hseg, add_sub_add_right_eq_sub, dot_eq_sum, dot_eq_sum, hwt,
    sum_congr rfl fun i hi => congrArg (wt.getD i 0 * ·) (href i hi), ← sum_sub_distrib]
  exact sum_congr rfl fun i _ => mul_sub _ _ _

/-- a common offset of the input and of the masked input changes no squared Euclidean distance ... -/
theorem lime_sqdist_translation (a b : List Rat) (c : Rat) :
    sqDist (a.map (· + c)) (b.map (· + c)) = sqDist a b := sqDist_translation a b c

/-- ... hence no kernel weight -/
theorem lime_weight_translation (κ : Rat → Rat) (width : Rat) (a b : List Rat) (c : Rat) :
    weightOf κ width (sqDist (a.map (· + c)) (b.map (· + c))) = weightOf κ width (sqDist a b) := by
  rw [sqDist_translation]

/-- over the rationals the expanded form `‖a‖² − 2⟨a,b⟩ + ‖b‖²` IS the squared distance: a float32 implementation that uses it
    differs from the documented kernel by rounding only - which is unbounded relative to `D²` when `a` and `b` share a large
    offset (the reason for the large-offset family of the correspondence check) -/
theorem lime_sqdist_expansion (a b : List Rat) (h : a.length = b.length) :
    sqDist a b = sqNorm a - 2 * dot a b + sqNorm b := by
  unfold sqDist sqNorm dot
  -- every term is a sum over the pairs `(a_i, b_i)`
  rw [List.zipWith_self, List.zipWith_self, ← map_zip_fst _ a b h.le, ← map_zip_snd _ a b h.ge,
    zipWith_eq_map_zip, zipWith_eq_map_zip, ← sumQ_map_mul_left, ← sumQ_map_sub, ← sumQ_map_add]
  exact congrArg sumQ (List.map_congr_left fun p _ => by ring)

private theorem cosSim_self (na : ℚ) (a : List ℚ) (hna : na ≠ 0) (hn : na * na = sqNorm a) :
    cosSim na na a a = 1 := by
  rw [cosSim, if_neg (not_or.mpr ⟨hna, hna⟩), hn]
  exact div_self fun h0 => mul_ne_zero hna hna (hn.trans h0)

/-- with the DOCUMENTED distance `1 − cos` a masked input equal to the (non-zero) input has
    distance 0, hence weight `κ 0` (= 1 for `κ = exp(−·)`) -/
theorem lime_cosine_identical (κ : ℚ → ℚ) (width na : ℚ) (a : List ℚ) (hna : na ≠ 0)
    (hn : na * na = sqNorm a) :
    weightOf κ width (cosDist na na a a * cosDist na na a a) = κ 0 := by
  rw [weightOf, cosDist, cosSim_self na a hna hn, sub_self, zero_mul, zero_div]

/-- **Witness of the repaired defect (D2)**: the pre-fix formula `1 + cos` gives a masked input
    equal to the input distance 2, i.e. weight `κ(4/width²)` instead of `κ 0`; so the predicate
    "weights = κ(D²/width²) with the documented D" separates the two formulas whenever
    `κ (4/width²) ≠ κ 0` (always, for `κ = exp(−·)`). -/
theorem lime_cosine_sign_witness (κ : ℚ → ℚ) (width na : ℚ) (a : List ℚ) (hna : na ≠ 0)
    (hn : na * na = sqNorm a) :
    weightOf κ width (cosDistOld na na a a * cosDistOld na na a a) = κ (4 / (width * width)) := by
  rw [weightOf, cosDistOld, cosSim_self na a hna hn]
  norm_num

/-! ### non-vacuity -/

-- a 2×3 image with 2 channels, 3 unequal segments, per-channel reference: hypotheses hold,
-- chunked evaluation (b = 2 over 3 samples) reproduces the per-sample masked inputs
example : (fitData ⟨2, [10, 20], [0, 2, 2, 1, 0, 0]⟩ (List.map fun z => z.getD 0 0 * z.getD 7 0)
    (expKernel id 1 sqDist) 2 [1, 2, 3, 4, 5, 6, 7, 8, 9, 10, 11, 12] [[1, 0, 1], [0, 1, 0], [1, 1, 0]]).targets
    = [20, 80, 8] := by decide +kernel
example : Binary [1, 0, 1] := by unfold Binary; decide
example : countOnes (kshapSample [3, -1, 2, 5] 2) = 2 :=
  (kshap_topk_count [3, -1, 2, 5] (by decide) 2 (by decide) (by decide)).1
example : kshapProbs 4 = [0, 1, 3/4, 1] := by decide +kernel
-- KernelShap design for F = 3 (coalitions e1, e2, e3, e2+e3) has full column rank with the intercept
example : LinReg.FullRank 4 4 (fun s j => if j < 3 then
    (if s = j ∨ (s = 3 ∧ 1 ≤ j) then 1 else 0) else 1) := by
  intro v h
  simp only [sum_range_succ, sum_range_zero, zero_add] at h
  -- the rows are `e₀ + 1`, `e₁ + 1`, `e₂ + 1`, `e₁ + e₂ + 1`; eliminate `v 2`, `v 3`, then `v 0`, `v 1`
  have h0 : v 0 * 1 + v 1 * 0 + v 2 * 0 + v 3 * 1 = 0 := h 0 (by decide)
  have h1 : v 0 * 0 + v 1 * 1 + v 2 * 0 + v 3 * 1 = 0 := h 1 (by decide)
  have h2 : v 0 * 0 + v 1 * 0 + v 2 * 1 + v 3 * 1 = 0 := h 2 (by decide)
  have h3 : v 0 * 0 + v 1 * 1 + v 2 * 1 + v 3 * 1 = 0 := h 3 (by decide)
  simp only [mul_one, mul_zero, add_zero, zero_add] at h0 h1 h2 h3
  rw [add_right_comm, h1, zero_add] at h3
  rw [h3, zero_add] at h2
  rw [h2, add_zero] at h0 h1
  intro j hj
  match j, hj with
  | 0, _ => exact h0
  | 1, _ => exact h1
  | 2, _ => exact h3
  | 3, _ => exact h2
  | j + 4, hj => exact absurd (mem_range.mp hj) (Nat.not_lt.mpr (Nat.le_add_left 4 j))
-- the exact solver on a ridge problem: F = 1, alpha = 2, three samples
example : LinReg.wlsFit 2 1 [[1], [0], [1]] [3, 1, 5] [1, 1, 1] = some [3/4, 5/2] := by decide +kernel
-- witness instance: a = [3, 4], ‖a‖ = 5, width = 1: old formula gives κ 4, documented one κ 0
example : weightOf id 1 (cosDistOld 5 5 [3, 4] [3, 4] * cosDistOld 5 5 [3, 4] [3, 4]) = 4 := by
  decide +kernel
example : weightOf id 1 (cosDist 5 5 [3, 4] [3, 4] * cosDist 5 5 [3, 4] [3, 4]) = 0 := by
  decide +kernel

end Xp.Lime
