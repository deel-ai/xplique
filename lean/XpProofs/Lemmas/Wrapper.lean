/-
  Helper lemmas for C11.  On well-shaped input the broadcasting cases of the callable path disappear: row scores are dot
  products, and a 1-D prediction is its column also for a single sample.  `allIdx` lists the multi-indices of a shape in
  row-major order, which is what ties `transposeFlat` on buffers to the index permutation.
-/
import XpModel.Wrapper
import XpProofs.Lemmas.Index
import Mathlib.Algebra.BigOperators.Group.Finset.Defs
import Mathlib.Algebra.Ring.Rat

namespace Xp.Wrap

open Finset in
/-- inner product of two 4-D tensors over the box `d0 × d1 × d2 × d3` -/
def inner4 (d0 d1 d2 d3 : Nat) (s t : MIdx → Rat) : Rat :=
  ∑ i ∈ range d0, ∑ j ∈ range d1, ∑ k ∈ range d2, ∑ l ∈ range d3, s [i, j, k, l] * t [i, j, k, l]

/-- the `for … break` loop of `_has_conv_layers` finds a Conv2d iff there is one -/
theorem hasConvLayers_iff (kinds : List Bool) : hasConvLayers kinds = true ↔ ∃ m ∈ kinds, m = true := by
  induction kinds with
  | nil => simp [hasConvLayers]
  | cons m ms ih =>
    unfold hasConvLayers
    by_cases hm : m = true
    · simp [hm]
    · simp [hm, ih]

theorem rowScore_eq_dot (row y : List Rat) (h : row.length = y.length) : rowScore row y = dot row y := by
  match row, y, h with
  | [], [], _ => rfl
  | [p], [t], _ => rfl
  | p :: q :: r, t :: u :: v, _ => rfl

theorem rowScore_singleton (p : Rat) (y : List Rat) (hy : y.length = 1) : rowScore [p] y = p * y.getD 0 0 := by
  match y, hy with
  | [t], _ => exact add_zero (p * t)

theorem scoresOf_eq_zipWith (rows ys : List (List Rat)) (h : rows.length = ys.length) :
    scoresOf rows ys = List.zipWith rowScore rows ys := by
  match rows, ys, h with
  | [], [], _ => rfl
  | [r], [y], _ => rfl
  | r :: r' :: rs, y :: ys, _ => rfl

/-- pairwise equal lengths -/
def Aligned (rows ys : List (List Rat)) : Prop :=
  rows.length = ys.length ∧ ∀ p ∈ List.zip rows ys, p.1.length = p.2.length

/-- a 1-D prediction of the right length is normalised to a column, also for `N = 1` where the
    `expand_dims` is skipped: the single row `[v]` then is the column -/
theorem normalise_vec (n : Nat) (v : List Rat) (hv : v.length = n) :
    normalise n (.vec v) = v.map fun p => [p] := by
  show (if n ≠ 1 then v.map fun p => [p] else [v]) = _
  split
  · rfl
  next h1 =>
    match v, hv.trans (not_not.mp h1) with
    | [p], _ => rfl

theorem oneHotCallable_vec (n : Nat) (v : List Rat) (hv : v.length = n) (ys : List (List Rat)) :
    oneHotCallable n (.vec v) ys = scoresOf (v.map fun p => [p]) ys :=
  congrArg (scoresOf · ys) (normalise_vec n v hv)

theorem inference_mat (w : Wrapping) (n : Nat) (rows ys : List (List Rat)) :
    inference w n (.mat rows) ys = scoresOf rows ys := by
  unfold inference; split <;> rfl

/-- a multi-index lies inside a shape -/
def Valid : List Nat → MIdx → Prop
  | [], [] => True
  | d :: ds, i :: is => i < d ∧ Valid ds is
  | _, _ => False

theorem length_allIdx (shape : List Nat) : (allIdx shape).length = size shape := by
  induction shape with
  | nil => rfl
  | cons d ds ih =>
    unfold allIdx size
    rw [length_flatMap_uniform _ _ (size ds) fun i _ => (List.length_map _).trans ih, List.length_range]

theorem allIdx_ravel (shape : List Nat) (idx : MIdx) (h : Valid shape idx) :
    (allIdx shape)[ravel shape idx]? = some idx ∧ ravel shape idx < size shape := by
  induction shape generalizing idx with
  | nil =>
    cases idx with
    | nil => exact ⟨rfl, Nat.one_pos⟩
    | cons _ _ => exact h.elim
  | cons d ds ih =>
    cases idx with
    | nil => exact h.elim
    | cons i is =>
      obtain ⟨ih1, ih2⟩ := ih is h.2
      refine ⟨?_, rm_lt h.1 ih2⟩
      unfold allIdx ravel
      rw [getElem?_flatMap_uniform _ _ (size ds) (fun k _ => (List.length_map _).trans (length_allIdx ds)) i _ ih2,
        List.getElem?_range h.1, Option.bind_some, List.getElem?_map, ih1]
      rfl

end Xp.Wrap
