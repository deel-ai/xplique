import Mathlib.MeasureTheory.Integral.IntervalIntegral.TrapezoidalRule

/-! The link from IG's rational trapezoid sums to real analysis: over node values `f j = ψ (j / N)` the sum is
    Mathlib's `trapezoidal_integral` on [0,1], so Mathlib's error bound for C² integrands applies. -/

open Finset

namespace Xp.IGSmooth

/-- panel `j` is Mathlib's one-trapezoid rule on `[j/N, (j+1)/N]` -/
theorem pairs_eq_trapezoidal (ψ : ℝ → ℝ) (N : ℕ) (hN : 0 < N) (f : ℕ → ℝ)
    (hf : ∀ j, j ≤ N → f j = ψ ((j : ℝ) / N)) :
    (∑ j ∈ range N, (f j + f (j + 1))) / N / 2 = trapezoidal_integral ψ N 0 1 := by
  have hne : (N : ℝ) ≠ 0 := Nat.cast_ne_zero.mpr hN.ne'
  have h := sum_trapezoidal_integral_adjacent_intervals (f := ψ) (a := 0) (h := (N : ℝ)⁻¹) hN
  rw [mul_inv_cancel₀ hne, zero_add] at h
  rw [← h, sum_div, sum_div]
  apply sum_congr rfl; intro j hj
  rw [trapezoidal_integral_one, zero_add, zero_add, hf j (mem_range.mp hj).le, hf (j + 1) (mem_range.mp hj),
    Nat.cast_succ]
  simp only [div_eq_mul_inv]
  ring

theorem trapz_gap_real (ψ : ℝ → ℝ) (N : ℕ) (hN : 0 < N) (f : ℕ → ℝ) (hf : ∀ j, j ≤ N → f j = ψ ((j : ℝ) / N))
    (hc : ContDiffOn ℝ 2 ψ (Set.uIcc (0 : ℝ) 1)) (K : ℝ)
    (hK : ∀ x, |iteratedDerivWithin 2 ψ (Set.uIcc (0 : ℝ) 1) x| ≤ K) :
    |(∑ j ∈ range N, (f j + f (j + 1))) / N / 2 - ∫ t in (0 : ℝ)..1, ψ t| ≤ K / (12 * (N : ℝ) ^ 2) := by
  have h := trapezoidal_error_le_of_c2 hc hK hN
  rwa [trapezoidal_error, sub_zero, abs_one, one_pow, one_mul, ← pairs_eq_trapezoidal ψ N hN f hf] at h

end Xp.IGSmooth
