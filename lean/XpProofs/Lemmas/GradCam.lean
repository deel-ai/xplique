/-
  Lemmas behind the Grad-CAM part of C10: the code's `reduce_mean` over a channel as a sum over the
  positions, the Grad-CAM++ denominator guard, sign facts of the reference formula, and the scan for the
  last layer with `filters`.
-/
import XpModel.GradCam
import XpProofs.Lemmas.MinMax

namespace Xp.GradCam

theorem meanQ_chan (M : Maps) (k : Nat) (h : Rat → Rat) :
    meanQ ((chan M k).map h) = sumQ (M.map fun row => h (row.getD k 0)) / (M.length : Rat) := by
  unfold meanQ chan
  rw [List.map_map, List.length_map]
  rfl

theorem meanQ_chan_id (M : Maps) (k : Nat) :
    meanQ (chan M k) = sumQ (M.map fun row => row.getD k 0) / (M.length : Rat) :=
  (congrArg meanQ (List.map_id _).symm).trans (meanQ_chan M k id)

/-- the guard `den += [den == 0]·eps` replaces a zero denominator by `eps` -/
theorem guard_eq (den eps : Rat) : den + (if den = 0 then 1 else 0) * eps = if den = 0 then eps else den := by
  split
  next h => rw [h, zero_add, one_mul]
  next h => rw [zero_mul, add_zero]

theorem specAlpha_eq (eps avg g : Rat) : specAlpha eps avg g = g ^ 2 / ppDen eps avg g := by
  unfold specAlpha ppDen
  rw [sq, pow_three', guard_eq, apply_ite (g * g / ·)]

theorem specAlpha_nonneg (eps abar g : Rat) (ha : 0 ≤ abar) (hg : 0 < g) : 0 ≤ specAlpha eps abar g := by
  have hden : 0 < 2 * g ^ 2 + g ^ 3 * abar := by positivity
  unfold specAlpha
  rw [if_neg hden.ne']
  exact div_nonneg (sq_nonneg g) hden.le

theorem specCam_nonneg (m : Method) (K : Nat) (s : Sample) : ∀ v ∈ specCam m K s, 0 ≤ v := by
  intro v hv
  obtain ⟨row, _, rfl⟩ := List.mem_map.mp hv
  rw [ratMax_eq]
  exact le_max_left 0 _

theorem find_range_reverse_some (n : Nat) (p : Nat → Bool) (i : Nat) :
    (List.range n).reverse.find? p = some i ↔
      (i < n ∧ p i = true ∧ ∀ j, i < j → j < n → p j = false) := by
  induction n with
  | zero => simp
  | succ n ih =>
    rw [List.range_succ, List.reverse_append, List.reverse_singleton, List.singleton_append,
      List.find?_cons]
    cases hp : p n with
    | true =>
      rw [Option.some.injEq]
      constructor
      · rintro rfl
        exact ⟨Nat.lt_succ_self _, hp, fun j h1 h2 => absurd h1 (Nat.not_lt.mpr (Nat.le_of_lt_succ h2))⟩
      · rintro ⟨hi, _, hlast⟩
        rcases Nat.lt_succ_iff_lt_or_eq.mp hi with hlt | rfl
        · exact absurd hp (Bool.eq_false_iff.mp (hlast n hlt (Nat.lt_succ_self _)))
        · rfl
    | false =>
      rw [ih]
      constructor
      · rintro ⟨hi, hpi, hlast⟩
        refine ⟨Nat.lt_succ_of_lt hi, hpi, fun j h1 h2 => ?_⟩
        rcases Nat.lt_succ_iff_lt_or_eq.mp h2 with hlt | rfl
        · exact hlast j h1 hlt
        · exact hp
      · rintro ⟨hi, hpi, hlast⟩
        rcases Nat.lt_succ_iff_lt_or_eq.mp hi with hlt | rfl
        · exact ⟨hlt, hpi, fun j h1 h2 => hlast j h1 (Nat.lt_succ_of_lt h2)⟩
        · exact absurd hpi (Bool.eq_false_iff.mp hp)

end Xp.GradCam
