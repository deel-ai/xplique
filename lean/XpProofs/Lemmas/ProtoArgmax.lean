import XpModel.ProtoSel
import Mathlib.Data.List.MinMax
import Mathlib.Data.List.Sort
import Mathlib.Algebra.Order.Field.Rat

/-! `tf.argmax` inside a batch and the strict `>` across batches are both folds of `pickBetter`; `foldl_pickBetter` makes the
    batched search an arg-max over the concatenation; which element wins is read off Mathlib's `List.argmax`. -/
namespace Xp.ProtoSel
variable {α β : Type}

theorem firstArgmax_nil (f : α → Rat) : firstArgmax f [] = none := rfl

theorem firstArgmax_append_singleton (f : α → Rat) (l : List α) (y : α) :
    firstArgmax f (l ++ [y]) = pickBetter f (firstArgmax f l) y := by
  simp [firstArgmax, List.foldl_append]

/-- meeting an incumbent is associative (`none`, the initial `-inf`, is its unit; `pickBetter f o y` is `absorb f o (some y)`) -/
theorem absorb_assoc (f : α → Rat) (a b c : Option α) :
    absorb f (absorb f a b) c = absorb f a (absorb f b c) := by
  cases c with
  | none => rfl
  | some z =>
    cases b with
    | none => rfl
    | some y =>
      cases a with
      | none =>
        simp only [absorb, pickBetter]
        split <;> rfl
      | some x =>
        -- the incumbent `x`, then `y`, then `z`: strict comparisons are transitive
        by_cases h1 : f x < f y <;> by_cases h2 : f y < f z
        · simp only [absorb, pickBetter, if_pos h1, if_pos h2, if_pos (lt_trans h1 h2)]
        · simp only [absorb, pickBetter, if_pos h1, if_neg h2]
        · simp only [absorb, pickBetter, if_neg h1, if_pos h2]
        · simp only [absorb, pickBetter, if_neg h1, if_neg h2,
            if_neg (not_lt.mpr ((not_lt.mp h2).trans (not_lt.mp h1)))]

theorem foldl_pickBetter (f : α → Rat) (l : List α) (acc : Option α) :
    l.foldl (pickBetter f) acc = absorb f acc (firstArgmax f l) := by
  induction l using List.reverseRecOn with
  | nil => simp [absorb, firstArgmax]
  | append_singleton l y ih =>
    rw [List.foldl_append, List.foldl_cons, List.foldl_nil, ih, firstArgmax_append_singleton]
    exact absorb_assoc f acc (firstArgmax f l) (some y)

theorem foldl_batches_argmax (f : α → Rat) (bs : List (List α)) (acc : Option α) :
    bs.foldl (fun best b => absorb f best (firstArgmax f b)) acc = bs.flatten.foldl (pickBetter f) acc := by
  induction bs generalizing acc with
  | nil => rfl
  | cons b bs ih =>
    rw [List.foldl_cons, List.flatten_cons, List.foldl_append, ih, foldl_pickBetter f b acc]

/-- the model's `tf.argmax` is Mathlib's `List.argmax`, the same fold: the FIRST element carrying the maximal value -/
theorem firstArgmax_eq_argmax (f : α → Rat) (l : List α) : firstArgmax f l = l.argmax f := by
  unfold firstArgmax List.argmax
  congr 1
  funext o x
  cases o <;> rfl

theorem firstArgmax_eq_none (f : α → Rat) (l : List α) : firstArgmax f l = none ↔ l = [] :=
  firstArgmax_eq_argmax f l ▸ List.argmax_eq_none

theorem firstArgmax_mem (f : α → Rat) (l : List α) (x : α) (h : firstArgmax f l = some x) : x ∈ l :=
  List.argmax_mem (firstArgmax_eq_argmax f l ▸ h)

theorem firstArgmax_max (f : α → Rat) (l : List α) (x : α) (h : firstArgmax f l = some x) :
    ∀ y ∈ l, f y ≤ f x :=
  fun _ hy => List.le_of_mem_argmax hy (firstArgmax_eq_argmax f l ▸ h)

theorem firstArgmax_lt_of_sorted (f : Nat → Rat) (l : List Nat) (hl : l.Pairwise (· < ·)) (x : Nat)
    (h : firstArgmax f l = some x) : ∀ y ∈ l, y < x → f y < f x := by
  intro y hy hyx
  rw [firstArgmax_eq_argmax] at h
  by_contra hle
  -- a tie or better at `y` would put the winner `x` at or before the position of `y`; in an increasing list that makes `x ≤ y`
  have hidx := List.index_of_argmax h hy (not_lt.mp hle)
  have := (hl.sortedLT.strictMono_get.le_iff_le
    (a := ⟨l.idxOf x, List.idxOf_lt_length_of_mem (List.argmax_mem h)⟩)
    (b := ⟨l.idxOf y, List.idxOf_lt_length_of_mem hy⟩)).mpr hidx
  simp only [List.get_eq_getElem, List.getElem_idxOf] at this
  exact Nat.lt_irrefl _ (Nat.lt_of_lt_of_le hyx this)

theorem pickBetter_map (f : β → Rat) (g : α → β) (o : Option α) (y : α) :
    pickBetter f (o.map g) (g y) = (pickBetter (fun a => f (g a)) o y).map g := by
  cases o with
  | none => rfl
  | some a =>
    simp only [pickBetter, Option.map_some]
    split <;> rfl

theorem firstArgmax_map (f : β → Rat) (g : α → β) (l : List α) :
    firstArgmax f (l.map g) = (firstArgmax (fun a => f (g a)) l).map g := by
  induction l using List.reverseRecOn with
  | nil => rfl
  | append_singleton l y ih =>
    rw [List.map_append, List.map_cons, List.map_nil, firstArgmax_append_singleton,
      firstArgmax_append_singleton, ih, pickBetter_map]

end Xp.ProtoSel
