import Mathlib.Data.List.GetD
import Mathlib.Algebra.Order.Ring.Int

/-! Lists seen through their indices: pointwise combination of maps over one list, row-major index arithmetic
    (`reshape`), blocks of a uniform concatenation, and Python's `ceil(a / s)` (`-((-a) fdiv s)` after translation;
    Python's `//` on naturals is core's `Int.ofNat_fdiv`). -/
namespace Xp
variable {α β γ δ : Type}

theorem zipWith_map_map_self (f : β → γ → δ) (h1 : α → β) (h2 : α → γ) (l : List α) :
    List.zipWith f (l.map h1) (l.map h2) = l.map fun a => f (h1 a) (h2 a) := by
  rw [List.zipWith_map, List.zipWith_self]

theorem zipWith_map_right_self (f : α → β → γ) (h : α → β) (l : List α) :
    List.zipWith f l (l.map h) = l.map fun a => f a (h a) := by
  rw [List.zipWith_map_right, List.zipWith_self]

theorem zipWith_map_left_self (f : β → α → γ) (h : α → β) (l : List α) :
    List.zipWith f (l.map h) l = l.map fun a => f (h a) a := by
  rw [List.zipWith_map_left, List.zipWith_self]

theorem zipWith_congr_zip {f g : α → β → γ} {as : List α} {bs : List β}
    (h : ∀ p ∈ List.zip as bs, f p.1 p.2 = g p.1 p.2) : List.zipWith f as bs = List.zipWith g as bs := by
  rw [← List.map_uncurry_zip_eq_zipWith, ← List.map_uncurry_zip_eq_zipWith]
  exact List.map_congr_left h

/-- `zipWith` as a map over the list of pairs: what holds of `l.map _` for any `l` then holds of `zipWith` -/
theorem zipWith_eq_map_zip (g : α → β → γ) (a : List α) (b : List β) :
    List.zipWith g a b = (a.zip b).map fun p => g p.1 p.2 :=
  List.map_uncurry_zip_eq_zipWith.symm

theorem map_zip_fst (f : α → γ) (a : List α) (b : List β) (h : a.length ≤ b.length) :
    (a.zip b).map (fun p => f p.1) = a.map f :=
  (List.map_map (f := Prod.fst) (g := f)).symm.trans (congrArg (List.map f) (List.map_fst_zip h))

theorem map_zip_snd (f : β → γ) (a : List α) (b : List β) (h : b.length ≤ a.length) :
    (a.zip b).map (fun p => f p.2) = b.map f :=
  (List.map_map (f := Prod.snd) (g := f)).symm.trans (congrArg (List.map f) (List.map_snd_zip h))

theorem range_map_getD (l : List α) (d : α) : (List.range l.length).map (fun i => l.getD i d) = l :=
  List.ext_getElem (by rw [List.length_map, List.length_range]) fun i _ h => by
    rw [List.getElem_map, List.getElem_range, List.getD_eq_getElem _ _ h]

theorem getD_range_map_ite (n : Nat) (g : Nat → α) (k : Nat) {d : α} :
    ((List.range n).map g).getD k d = if k < n then g k else d := by
  have hl : ((List.range n).map g).length = n := by rw [List.length_map, List.length_range]
  split
  · rename_i h; rw [List.getD_eq_getElem _ _ (hl.symm ▸ h), List.getElem_map, List.getElem_range]
  · rename_i h; exact List.getD_eq_default _ _ (hl.symm ▸ Nat.le_of_not_lt h)

theorem getD_range_map (n : Nat) (g : Nat → α) (k : Nat) (hk : k < n) {d : α} :
    ((List.range n).map g).getD k d = g k := by
  rw [getD_range_map_ite, if_pos hk]

theorem getD_mem (l : List α) (d : α) {j : Nat} (h : j < l.length) : l.getD j d ∈ l :=
  List.getD_eq_getElem l d h ▸ List.getElem_mem h

theorem getD_map_zero {M N : Type} [Zero M] [Zero N] (f : M → N) (hf : f 0 = 0) (l : List M) (k : Nat) :
    (l.map f).getD k 0 = f (l.getD k 0) := by
  rw [← hf, List.getD_map]

theorem getD_map_of_lt (l : List α) (g : α → β) (d : α) {d' : β} {j : Nat} (h : j < l.length) :
    (l.map g).getD j d' = g (l.getD j d) := by
  rw [List.getD_eq_getElem _ _ (by rwa [List.length_map]), List.getElem_map, List.getD_eq_getElem _ _ h]

theorem getD_forall {P : α → Prop} {l : List α} {d : α} (hd : P d) (h : ∀ a ∈ l, P a) (n : Nat) : P (l.getD n d) := by
  rcases Nat.lt_or_ge n l.length with hn | hn
  · rw [List.getD_eq_getElem _ _ hn]; exact h _ (List.getElem_mem hn)
  · rw [List.getD_eq_default _ _ hn]; exact hd

theorem rm_div {j w : Nat} (i : Nat) (hj : j < w) : (i * w + j) / w = i := by
  rw [Nat.mul_comm, Nat.mul_add_div (Nat.zero_lt_of_lt hj), Nat.div_eq_of_lt hj, Nat.add_zero]

theorem rm_mod {j w : Nat} (i : Nat) (hj : j < w) : (i * w + j) % w = j := by
  rw [Nat.mul_comm, Nat.mul_add_mod, Nat.mod_eq_of_lt hj]

theorem rm_lt {i j h w : Nat} (hi : i < h) (hj : j < w) : i * w + j < h * w :=
  calc i * w + j < (i + 1) * w := by rw [Nat.succ_mul]; exact Nat.add_lt_add_left hj _
    _ ≤ h * w := Nat.mul_le_mul_right _ hi

/-- a row-major table is the concatenation of its rows -/
theorem map_range_mul (p c : Nat) (F : Nat → α) :
    (List.range (p * c)).map F = (List.range p).flatMap fun i => (List.range c).map fun k => F (i * c + k) := by
  induction p with
  | zero => rw [Nat.zero_mul]; rfl
  | succ p ih =>
    rw [Nat.succ_mul, List.range_add, List.map_append, ih, List.range_succ, List.flatMap_append,
      List.flatMap_singleton, List.map_map]
    rfl

theorem getD_rm (h w : Nat) (F : Nat → Nat → α) {i j : Nat} (hi : i < h) (hj : j < w) {d : α} :
    ((List.range (h * w)).map fun p => F (p / w) (p % w)).getD (i * w + j) d = F i j := by
  rw [getD_range_map _ _ _ (rm_lt hi hj), rm_div i hj, rm_mod i hj]

theorem getElem?_flatten_uniform (L : List (List α)) (n : Nat) (hL : ∀ l ∈ L, l.length = n)
    (i a : Nat) (ha : a < n) : L.flatten[i * n + a]? = (L[i]?).bind (·[a]?) := by
  induction L generalizing i with
  | nil => rfl
  | cons l L ih =>
    have hl : l.length = n := hL l List.mem_cons_self
    rw [List.flatten_cons]
    cases i with
    | zero =>
      rw [Nat.zero_mul, Nat.zero_add, List.getElem?_append_left (hl ▸ ha)]
      rfl
    | succ i =>
      rw [Nat.succ_mul, Nat.add_right_comm,
        List.getElem?_append_right (Nat.le_trans (Nat.le_of_eq hl) (Nat.le_add_left n _)), hl, Nat.add_sub_cancel]
      exact ih (fun l' h' => hL l' (List.mem_cons_of_mem _ h')) i

theorem getElem?_flatMap_uniform (l : List β) (g : β → List α) (m : Nat) (hg : ∀ x ∈ l, (g x).length = m)
    (i j : Nat) (hj : j < m) : (l.flatMap g)[i * m + j]? = l[i]?.bind fun x => (g x)[j]? := by
  rw [List.flatMap_def, getElem?_flatten_uniform _ m (List.forall_mem_map.mpr hg) i j hj, List.getElem?_map]
  cases l[i]? <;> rfl

theorem length_flatMap_uniform (l : List β) (g : β → List α) (m : Nat) (hg : ∀ x ∈ l, (g x).length = m) :
    (l.flatMap g).length = l.length * m := by
  induction l with
  | nil => exact (Nat.zero_mul m).symm
  | cons x l ih =>
    rw [List.flatMap_cons, List.length_append, hg x List.mem_cons_self,
      ih fun y hy => hg y (List.mem_cons_of_mem x hy), List.length_cons, Nat.succ_mul, Nat.add_comm]

theorem flatten_getD_uniform (L : List (List α)) (n : Nat) (hn : 0 < n) (hL : ∀ l ∈ L, l.length = n)
    (k : Nat) (d : α) : L.flatten.getD k d = (L.getD (k / n) []).getD (k % n) d := by
  have h := getElem?_flatten_uniform L n hL (k / n) (k % n) (Nat.mod_lt _ hn)
  rw [Nat.div_add_mod'] at h
  rw [List.getD_eq_getElem?_getD, h, List.getD_eq_getElem?_getD, List.getD_eq_getElem?_getD]
  cases L[k / n]? <;> rfl

theorem drop_take_flatten_uniform (L : List (List α)) (n : Nat) (hL : ∀ l ∈ L, l.length = n)
    (i : Nat) (hi : i < L.length) :
    (L.flatten.take (n * i + n)).drop (n * i) = L[i] := by
  apply List.ext_getElem?
  intro a
  rw [List.getElem?_drop, List.getElem?_take]
  by_cases ha : a < n
  · rw [if_pos (Nat.add_lt_add_left ha _), Nat.mul_comm, getElem?_flatten_uniform L n hL i a ha,
      List.getElem?_eq_getElem hi]
    rfl
  · rw [if_neg fun h => ha (Nat.lt_of_add_lt_add_left h),
      List.getElem?_eq_none (by rw [hL _ (List.getElem_mem hi)]; exact Nat.le_of_not_lt ha)]

theorem lt_ceil_iff (a s i : Int) (hs : 0 < s) : i < -(Int.fdiv (-a) s) ↔ i * s < a := by
  rw [Int.fdiv_eq_ediv_of_nonneg _ (le_of_lt hs), lt_neg, Int.ediv_lt_iff_lt_mul hs, neg_mul, neg_lt_neg_iff]

end Xp
