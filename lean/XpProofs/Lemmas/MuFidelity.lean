/-
  Lemmas for C15 (MuFidelity / AverageStability).  The generated batch arithmetic is read in `ℕ` once, and the
  `while total < nb_samples` loop then produces `chunkSizes`.  Average ranks depend on the values only through
  comparisons (strictly monotone maps keep them, negation mirrors them).  Cauchy–Schwarz is stated over an index
  list, so the bound on the rank triple needs no lengths.  For an additive score and binary masks the prediction
  drop is the summed attribution of the masked-out positions.
-/
import XpModel.MuFidelity
import XpProofs.Lemmas.Batching
import XpProofs.Lemmas.Vec
import Mathlib.Algebra.Order.BigOperators.Ring.Finset
import Mathlib.Algebra.BigOperators.Fin
import Mathlib.Algebra.Order.Field.Basic

namespace Xp.MuFid

theorem effBs_none (n nb : Nat) : effBs none n nb = n * nb := rfl

theorem mufPbs_nat (bs nb : Nat) : Gen.mufPbs bs nb = ((min bs nb : Nat) : Int) :=
  (Nat.cast_min bs nb).symm

theorem mufIbs_nat (bs pbs : Nat) : Gen.mufIbs bs pbs = ((max 1 (bs / pbs) : Nat) : Int) := by
  rw [Gen.mufIbs, ← Int.ofNat_fdiv, Nat.cast_max, Nat.cast_one]

theorem mufChunk_nat (pbs nb tot : Nat) (h : tot ≤ nb) :
    Gen.mufChunk pbs nb tot = ((min pbs (nb - tot) : Nat) : Int) := by
  rw [Gen.mufChunk, ← Int.natCast_sub h, Nat.cast_min]

theorem chunkLoop_eq (pbs nb : Nat) (hp : 0 < pbs) : ∀ (fuel tot : Nat), nb - tot ≤ fuel →
    (chunkLoop (pbs : Int) (nb : Int) fuel (tot : Int)).map Int.toNat = chunkSizes pbs (nb - tot)
  | 0, tot, h => by
    rw [Nat.le_zero.mp h, chunkSizes_zero]; rfl
  | fuel + 1, tot, h => by
    unfold chunkLoop
    by_cases hlt : tot < nb
    · rw [if_pos (Int.ofNat_lt.mpr hlt)]
      simp only [mufChunk_nat pbs nb tot hlt.le, ← Nat.cast_add, List.map_cons, Int.toNat_natCast]
      rw [chunkLoop_eq pbs nb hp fuel _ (chunk_fuel hp hlt h), Nat.sub_add_eq]
      exact (chunkSizes_pos pbs _ hp (Nat.sub_pos_of_lt hlt)).symm
    · rw [if_neg fun h' => hlt (Int.ofNat_lt.mp h'), Nat.sub_eq_zero_of_le (Nat.le_of_not_lt hlt),
        chunkSizes_zero]; rfl

/-- accumulating per-chunk rows by `concat(axis=1)` = rows over the concatenated chunks -/
theorem foldl_concat_rows {σ μ ρ : Type} (batch : List σ) (P : σ → μ → ρ) (chunks : List (List μ))
    (A : σ → List ρ) :
    chunks.foldl (fun acc ms => List.zipWith (· ++ ·) acc (batch.map fun b => ms.map (P b))) (batch.map A)
      = batch.map fun b => A b ++ chunks.flatten.map (P b) := by
  induction chunks generalizing A with
  | nil => simp only [List.foldl_nil, List.flatten_nil, List.map_nil, List.append_nil]
  | cons ms chunks ih =>
    rw [List.foldl_cons, zipWith_map_map_self, ih]
    simp only [List.flatten_cons, List.map_append, List.append_assoc]

theorem cauchy_schwarz_map {ι : Type} (l : List ι) (f g : ι → Rat) :
    (l.map fun i => f i * g i).sum ^ 2 ≤ (l.map fun i => f i ^ 2).sum * (l.map fun i => g i ^ 2).sum := by
  rw [← Fin.sum_univ_fun_getElem, ← Fin.sum_univ_fun_getElem, ← Fin.sum_univ_fun_getElem]
  exact Finset.sum_mul_sq_le_sq_mul_sq _ _ _

theorem avgRanks_map (φ : Rat → Rat) (hφ : StrictMono φ) (xs : List Rat) :
    avgRanks (xs.map φ) = avgRanks xs := by
  unfold avgRanks
  rw [List.map_map]
  apply List.map_congr_left
  intro x _
  have h1 : ((fun z => decide (z < φ x)) ∘ φ) = fun z => decide (z < x) :=
    funext fun z => decide_eq_decide.mpr hφ.lt_iff_lt
  have h2 : ((fun z => decide (z = φ x)) ∘ φ) = fun z => decide (z = x) :=
    funext fun z => decide_eq_decide.mpr hφ.injective.eq_iff
  rw [Function.comp, List.countP_map, List.countP_map, h1, h2]

theorem count_partition (xs : List Rat) (x : Rat) :
    xs.countP (fun z => decide (z < x)) + xs.countP (fun z => decide (z = x))
      + xs.countP (fun z => decide (x < z)) = xs.length := by
  induction xs with
  | nil => rfl
  | cons a l ih =>
    have h1 : (if decide (a < x) = true then 1 else 0) + (if decide (a = x) = true then 1 else 0)
        + (if decide (x < a) = true then 1 else 0) = 1 := by
      rcases lt_trichotomy a x with h | h | h
      · rw [if_pos (decide_eq_true h), if_neg (by simpa using h.ne), if_neg (by simpa using h.le)]
      · rw [if_neg (by simpa using h.ge), if_pos (decide_eq_true h), if_neg (by simpa using h.le)]
      · rw [if_neg (by simpa using h.le), if_neg (by simpa using h.ne'), if_pos (decide_eq_true h)]
    rw [List.countP_cons, List.countP_cons, List.countP_cons, List.length_cons, ← ih]
    omega

theorem avgRanks_neg (xs : List Rat) :
    avgRanks (xs.map fun v => -v) = (avgRanks xs).map fun r => (xs.length : Rat) + 1 - r := by
  unfold avgRanks
  rw [List.map_map, List.map_map]
  apply List.map_congr_left
  intro x _
  have h1 : ((fun z => decide (z < -x)) ∘ fun v => -v) = fun z => decide (x < z) :=
    funext fun z => decide_eq_decide.mpr neg_lt_neg_iff
  have h2 : ((fun z => decide (z = -x)) ∘ fun v => -v) = fun z => decide (z = x) :=
    funext fun z => decide_eq_decide.mpr neg_inj
  simp only [Function.comp, List.countP_map]
  rw [h1, h2, ← count_partition xs x]
  push_cast
  ring

theorem avgRanks_length (xs : List Rat) : (avgRanks xs).length = xs.length := List.length_map _

theorem avgRanks_const (xs : List Rat) (v : Rat) (h : ∀ x ∈ xs, x = v) :
    ∀ r ∈ avgRanks xs, r = ((xs.length : Rat) + 1) / 2 := by
  intro r hr
  obtain ⟨x, hx, rfl⟩ := List.mem_map.mp hr
  have h1 : xs.countP (fun z => decide (z < x)) = 0 :=
    List.countP_eq_zero.mpr fun z hz => by rw [h z hz, h x hx]; exact fun h' => lt_irrefl v (of_decide_eq_true h')
  have h2 : xs.countP (fun z => decide (z = x)) = xs.length :=
    List.countP_eq_length.mpr fun z hz => by rw [h z hz, h x hx]; exact decide_eq_true rfl
  rw [h1, h2, Nat.cast_zero, zero_add]

theorem covTriple_self (r : List Rat) :
    covTriple r r = ((covTriple r r).2.1, (covTriple r r).2.1, (covTriple r r).2.1) := by
  unfold covTriple
  simp only [List.zipWith_self]

theorem covTriple_var_nonneg (a b : List Rat) : 0 ≤ (covTriple a b).2.1 :=
  sumQ_map_nonneg a _ fun _ _ => mul_self_nonneg _

/-- reflecting the second list in a point flips the sign of the covariance and keeps both variances -/
theorem covTriple_mirror (a b : List Rat) (c : Rat) :
    covTriple a (b.map fun v => c - v) = (-(covTriple a b).1, (covTriple a b).2.1, (covTriple a b).2.2) := by
  by_cases hb : b = []
  · subst hb; simp [covTriple]
  · unfold covTriple
    simp only [meanQ_const_sub c b hb, List.zipWith_map_right, List.map_map]
    congr 1
    · rw [zipWith_eq_map_zip, zipWith_eq_map_zip, ← neg_one_mul, ← sumQ_map_mul_left]
      exact congrArg sumQ (List.map_congr_left fun p _ => by ring)
    · congr 2
      exact List.map_congr_left fun v _ => by simp only [Function.comp]; ring

theorem covTriple_const_left (a b : List Rat) (c : Rat) (h : ∀ u ∈ a, u = c) : (covTriple a b).2.1 = 0 := by
  by_cases ha : a = []
  · subst ha; rfl
  · have e : a = a.map fun _ => c := (List.map_id' a).symm.trans (List.map_congr_left h)
    have hm : meanQ a = c := (congrArg meanQ e).trans (meanQ_map_const a ha c)
    exact sumQ_map_eq_zero a _ fun u hu => by rw [hm, h u hu, sub_self, mul_zero]

theorem rhoSq_eq_none (t : Rat × Rat × Rat) (h : t.2.1 * t.2.2 = 0) : rhoSq t = none := if_pos h

theorem rhoSq_eq_some (t : Rat × Rat × Rat) (h : t.2.1 * t.2.2 ≠ 0) :
    rhoSq t = some (decide (0 ≤ t.1), t.1 * t.1 / (t.2.1 * t.2.2)) := if_neg h

theorem rhoSq_le_one (t : Rat × Rat × Rat) (hcs : t.1 ^ 2 ≤ t.2.1 * t.2.2) (pos : Bool) (r2 : Rat)
    (h : rhoSq t = some (pos, r2)) : 0 ≤ r2 ∧ r2 ≤ 1 := by
  by_cases hne : t.2.1 * t.2.2 = 0
  · rw [rhoSq_eq_none t hne] at h; cases h
  · rw [rhoSq_eq_some t hne] at h
    obtain ⟨_, rfl⟩ := Prod.mk.inj (Option.some.inj h)
    have hnn : 0 ≤ t.2.1 * t.2.2 := le_trans (sq_nonneg _) hcs
    exact ⟨div_nonneg (mul_self_nonneg _) hnn, (div_le_one (lt_of_le_of_ne hnn (Ne.symm hne))).mpr (pow_two t.1 ▸ hcs)⟩

theorem rhoSq_diag (V : Rat) (h0 : 0 ≤ V) (hV : V ≠ 0) :
    rhoSq (V, V, V) = some (true, 1) ∧ rhoSq (-V, V, V) = some (false, 1) := by
  have hVV : V * V ≠ 0 := mul_ne_zero hV hV
  have hneg : ¬ 0 ≤ -V := fun h => hV (le_antisymm (neg_nonneg.mp h) h0)
  rw [rhoSq_eq_some _ hVV, rhoSq_eq_some (-V, V, V) hVV, neg_mul_neg, div_self hVV, decide_eq_true h0,
    decide_eq_false hneg]
  exact ⟨rfl, rfl⟩

theorem rankTriple_of_eq (ps : List (Rat × Rat)) (hpt : ∀ p ∈ ps, p.1 = p.2) :
    rankTriple ps = ((rankTriple ps).2.1, (rankTriple ps).2.1, (rankTriple ps).2.1) := by
  rw [rankTriple, ← List.map_congr_left (f := Prod.fst) hpt]
  exact covTriple_self _

/-- negating the attributions negates the rank covariance and keeps the rank variances: `ρ ↦ −ρ` -/
theorem rankTriple_neg_snd (ps : List (Rat × Rat)) :
    rankTriple (ps.map fun p => (p.1, -p.2))
      = (-(rankTriple ps).1, (rankTriple ps).2.1, (rankTriple ps).2.2) := by
  have h : (ps.map fun p => (p.1, -p.2)).map Prod.snd = (ps.map Prod.snd).map fun v => -v := by
    rw [List.map_map, List.map_map]; rfl
  rw [rankTriple, h, avgRanks_neg, covTriple_mirror, List.map_map]
  rfl

theorem attrOf_scale (cp : Nat) (c : Rat) (phi m : List Rat) :
    attrOf cp (phi.map fun v => c * v) m = c * attrOf cp phi m := by
  rw [attrOf, attrOf, List.length_map, ← sumQ_map_mul_left]
  congr 1
  apply List.map_congr_left
  intro k _
  rw [getD_map_zero (c * ·) (mul_zero c), mul_assoc]

theorem attrOf_neg (cp : Nat) (phi m : List Rat) :
    attrOf cp (phi.map fun v => -v) m = - attrOf cp phi m := by
  simpa only [neg_one_mul] using attrOf_scale cp (-1) phi m

/-- score additive over the flat input positions -/
def ElemAdditive (D : Nat) (f : List Rat → Rat) (c0 : Rat) (h : Nat → Rat → Rat) : Prop :=
  ∀ z : List Rat, z.length = D → f z = c0 + sumQ ((List.range D).map fun k => h k (z.getD k 0))

theorem degrade_length (c : Nat) (x base m : List Rat) : (degrade c x base m).length = x.length := by
  rw [degrade, List.length_map, List.length_range]

theorem degrade_getD (c : Nat) (x base m : List Rat) (k : Nat) (hk : k < x.length) :
    (degrade c x base m).getD k 0
      = x.getD k 0 * m.getD (k / c) 0 + (1 - m.getD (k / c) 0) * base.getD k 0 :=
  getD_range_map x.length _ k hk

theorem additive_pred_eq_attr (D c : Nat) (f : List Rat → Rat) (c0 : Rat) (h : Nat → Rat → Rat)
    (hadd : ElemAdditive D f c0 h) (x base m : List Rat) (hx : x.length = D)
    (hbin : ∀ k, k < D → m.getD (k / c) 0 = 0 ∨ m.getD (k / c) 0 = 1) :
    f x - f (degrade c x base m)
      = attrOf c ((List.range D).map fun k => h k (x.getD k 0) - h k (base.getD k 0)) m := by
  rw [hadd x hx, hadd _ ((degrade_length c x base m).trans hx), attrOf, List.length_map, List.length_range,
    add_sub_add_left_eq_sub, ← sumQ_map_sub]
  congr 1
  apply List.map_congr_left
  intro k hk
  have hk' : k < D := List.mem_range.mp hk
  rw [degrade_getD c x base m k (hx ▸ hk'), getD_range_map D _ k hk']
  -- a kept position contributes nothing, a masked-out one its whole attribution
  rcases hbin k hk' with h0 | h1
  · rw [h0, mul_zero, zero_add, sub_zero, one_mul, mul_one]
  · rw [h1, mul_one, sub_self, zero_mul, add_zero, sub_self, mul_zero]

theorem sumQ_range_mul (F C : Nat) (u : Nat → Rat) :
    sumQ ((List.range (F * C)).map u)
      = sumQ ((List.range F).map fun i => sumQ ((List.range C).map fun ch => u (i * C + ch))) := by
  rw [map_range_mul, sumQ_flatMap]

theorem attrOf_cellSum (F C : Nat) (phi m : List Rat) (hlen : phi.length = F * C) :
    attrOf 1 (cellSum F C phi) m = attrOf C phi m := by
  unfold attrOf
  rw [hlen, sumQ_range_mul, cellSum, List.length_map, List.length_range]
  congr 1
  apply List.map_congr_left
  intro i hi
  rw [getD_range_map F _ i (List.mem_range.mp hi), Nat.div_one, mul_comm, ← sumQ_map_mul_left]
  congr 1
  apply List.map_congr_left
  intro ch hch
  rw [rm_div i (List.mem_range.mp hch), mul_comm]

end Xp.MuFid
