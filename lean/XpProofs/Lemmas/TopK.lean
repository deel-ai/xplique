/-
  Generic theory of the batched running top-k (`TopK.step` / `TopK.run`):
  for ANY sort (permutation + sortedness; the order of ties is unspecified) and any total preorder,
  the loop returns a sorted selection of the `k` smallest elements of everything it has seen.
-/
import XpModel.TopK
import Mathlib.Data.List.Sort

namespace Xp.TopK
open scoped List
variable {α κ : Type}

structure TotalPre (le : α → α → Bool) : Prop where
  total : ∀ a b, le a b = true ∨ le b a = true
  trans : ∀ a b c, le a b = true → le b c = true → le a c = true

theorem TotalPre.refl {le : α → α → Bool} (h : TotalPre le) (a : α) : le a a = true :=
  (h.total a a).elim id id

theorem TotalPre.pairwise_mergeSort {le : α → α → Bool} (h : TotalPre le) (l : List α) :
    (l.mergeSort le).Pairwise (fun a b => le a b = true) :=
  List.pairwise_mergeSort h.trans (fun a b => Bool.or_eq_true _ _ ▸ h.total a b) l

def IsSort (le : α → α → Bool) (sort : List α → List α) : Prop :=
  ∀ l, (sort l).Perm l ∧ (sort l).Pairwise (fun a b => le a b = true)

/-- `R` is a sorted selection of the `k` smallest elements of the multiset `M` -/
structure IsTopK (le : α → α → Bool) (k : Nat) (M R : List α) : Prop where
  sorted : R.Pairwise (fun a b => le a b = true)
  length_eq : R.length = min k M.length
  rest : ∃ D, (R ++ D).Perm M ∧ ∀ r ∈ R, ∀ d ∈ D, le r d = true

theorem countP_take_of_sorted {le : α → α → Bool} {p : α → Bool}
    (hp : ∀ a b, le a b = true → p b = true → p a = true) :
    ∀ {S : List α}, S.Pairwise (fun a b => le a b = true) → ∀ k,
      (S.take k).countP p = min k (S.countP p)
  | [], _, k => by rw [List.take_nil, List.countP_nil, Nat.min_zero]
  | a :: S, hS, 0 => by rw [List.take_zero, List.countP_nil, Nat.zero_min]
  | a :: S, hS, k + 1 => by
    rw [List.pairwise_cons] at hS
    rw [List.take_succ_cons]
    by_cases ha : p a = true
    · rw [List.countP_cons_of_pos ha, List.countP_cons_of_pos ha, countP_take_of_sorted hp hS.2 k,
        Nat.succ_min_succ]
    · have h0 : S.countP p = 0 := List.countP_eq_zero.mpr fun x hx hpx => ha (hp a x (hS.1 x hx) hpx)
      rw [List.countP_cons_of_neg ha, List.countP_cons_of_neg ha, countP_take_of_sorted hp hS.2 k, h0,
        Nat.min_zero, Nat.min_zero]

theorem isTopK_init {le : α → α → Bool} {k : Nat} {init : List α}
    (hs : init.Pairwise (fun a b => le a b = true)) (hl : init.length ≤ k) :
    IsTopK le k init init :=
  ⟨hs, (Nat.min_eq_right hl).symm, [], by rw [List.append_nil], fun _ _ _ h => nomatch h⟩

theorem IsTopK.length_of_rest {le : α → α → Bool} {k : Nat} {M R D : List α}
    (h : IsTopK le k M R) (hD : (R ++ D).Perm M) {d : α} (hd : d ∈ D) : R.length = k := by
  have h1 := h.length_eq
  rw [h1]
  refine Nat.min_eq_left (Nat.le_of_not_lt fun hlt => ?_)
  have h2 := hD.length_eq
  have h3 := List.length_pos_of_mem hd
  rw [Nat.min_eq_right (Nat.le_of_lt hlt)] at h1
  rw [List.length_append] at h2
  omega

theorem step_isTopK {le : α → α → Bool} (hle : TotalPre le) {sort : List α → List α}
    (hsort : IsSort le sort) {k : Nat} {M R : List α} (h : IsTopK le k M R) (new : List α) :
    IsTopK le k (M ++ new) (step sort k R new) := by
  obtain ⟨hperm, hsorted⟩ := hsort (R ++ new)
  obtain ⟨D, hD, hRD⟩ := h.rest
  have hsplit := List.take_append_drop k (sort (R ++ new))
  have hs := hsorted
  rw [← hsplit, List.pairwise_append] at hs
  refine ⟨hs.1, ?_, (sort (R ++ new)).drop k ++ D, ?_, ?_⟩
  · rw [step, List.length_take, hperm.length_eq, List.length_append, List.length_append, h.length_eq,
      ← Nat.add_min_add_right, ← Nat.min_assoc, Nat.min_eq_left (Nat.le_add_right k _)]
  · rw [step, ← List.append_assoc, hsplit]
    calc sort (R ++ new) ++ D ~ R ++ (new ++ D) := List.append_assoc R new D ▸ hperm.append_right D
      _ ~ R ++ (D ++ new) := List.perm_append_comm.append_left R
      _ ~ M ++ new := List.append_assoc R D new ▸ hD.append_right new
  · intro t (ht : t ∈ (sort (R ++ new)).take k) d hd
    rcases List.mem_append.mp hd with hdU | hdD
    · exact hs.2.2 t ht d hdU
    · -- `R` is full (`D ≠ []`) and lies below `d`, so the first `k` of the sorted table do as well
      have hc := countP_take_of_sorted (p := fun x => le x d) (fun a b hab hb => hle.trans a b d hab hb)
        hsorted k
      rw [hperm.countP_eq, List.countP_append,
        List.countP_eq_length.mpr (fun r hr => hRD r hr d hdD), h.length_of_rest hD hdD,
        Nat.min_eq_left (Nat.le_add_right k _)] at hc
      exact (List.countP_eq_length (p := fun x => le x d)).mp
        (Nat.le_antisymm List.countP_le_length (hc.symm ▸ List.length_take_le k _)) t ht

theorem run_isTopK {le : α → α → Bool} (hle : TotalPre le) {sort : List α → List α}
    (hsort : IsSort le sort) {k : Nat} (bs : List (List α)) :
    ∀ {M R : List α}, IsTopK le k M R → IsTopK le k (M ++ bs.flatten) (run sort k R bs) := by
  induction bs with
  | nil => intro M R h; rwa [List.flatten_nil, List.append_nil]
  | cons b bs ih =>
    intro M R h
    rw [List.flatten_cons, ← List.append_assoc]
    exact ih (step_isTopK hle hsort h b)

theorem IsTopK.mem {le : α → α → Bool} {k : Nat} {M R : List α} (h : IsTopK le k M R) {r : α}
    (hr : r ∈ R) : r ∈ M := by
  obtain ⟨D, hD, _⟩ := h.rest
  exact hD.subset (List.mem_append_left D hr)

theorem IsTopK.nearest {le : α → α → Bool} {k : Nat} {M R : List α} (h : IsTopK le k M R) {x : α}
    (hx : x ∈ M) (hnot : x ∉ R) : ∀ r ∈ R, le r x = true := by
  obtain ⟨D, hD, hRD⟩ := h.rest
  intro r hr
  exact hRD r hr x ((List.mem_append.mp (hD.symm.subset hx)).resolve_left hnot)

theorem IsTopK.nodup_filterMap {β : Type} {le : α → α → Bool} {k : Nat} {M R : List α}
    (h : IsTopK le k M R) (f : α → Option β) (hM : (M.filterMap f).Nodup) : (R.filterMap f).Nodup := by
  obtain ⟨D, hD, _⟩ := h.rest
  have := (hD.filterMap f).nodup_iff.mpr hM
  rw [List.filterMap_append] at this
  exact (List.nodup_append.mp this).1

/-- so the selected keys depend neither on the batching nor on the tie order -/
theorem IsTopK.keys_eq {le : α → α → Bool} {k : Nat} {M R : List α} (h : IsTopK le k M R)
    (key : α → κ) (kle : κ → κ → Bool) (hk : TotalPre kle)
    (hanti : ∀ a b, kle a b = true → kle b a = true → a = b)
    (hkey : ∀ a b, le a b = kle (key a) (key b)) :
    R.map key = ((M.map key).mergeSort kle).take k := by
  obtain ⟨D, hD, hRD⟩ := h.rest
  -- the selected keys followed by the other keys in order are the sorted key list
  have heq : R.map key ++ (D.map key).mergeSort kle = (M.map key).mergeSort kle := by
    refine List.Perm.eq_of_pairwise (fun a b _ _ => hanti a b) ?_ (hk.pairwise_mergeSort _) ?_
    · rw [List.pairwise_append, List.pairwise_map]
      refine ⟨h.sorted.imp fun {a b} hab => hkey a b ▸ hab, hk.pairwise_mergeSort _, ?_⟩
      intro a ha b hb
      obtain ⟨r, hr, rfl⟩ := List.mem_map.mp ha
      obtain ⟨d, hd, rfl⟩ := List.mem_map.mp (List.mem_mergeSort.mp hb)
      exact hkey r d ▸ hRD r hr d hd
    · exact ((List.mergeSort_perm _ kle).append_left _).trans
        ((List.map_append ▸ hD.map key).trans (List.mergeSort_perm _ kle).symm)
  rw [← heq]
  cases D with
  | nil =>
    rw [List.map_nil, List.mergeSort_nil, List.append_nil, List.take_of_length_le]
    rw [List.length_map, h.length_eq]; exact Nat.min_le_left _ _
  | cons d D =>
    exact (List.take_left' (by rw [List.length_map]; exact h.length_of_rest hD List.mem_cons_self)).symm

end Xp.TopK
