/-
  Per-layer facts behind the DeconvNet / GuidedBackprop part of C10: the override leaves the forward map of
  a layer unchanged and turns its vector-Jacobian product into the published one, because the `grad_func`
  it installs (`ruleVJP`) and the published rule are the same function.
-/
import XpModel.ReluNet
import XpProofs.Lemmas.MinMax

namespace Xp.Net

/-- the layer carries a ReLU that the override replaces -/
def IsReluUnit (l : Layer) : Prop := hasReluActivation l = true ∨ isRelu l = true

theorem ruleVJP_eq_published (r : Rule) : ruleVJP r = published r := by
  funext z g
  cases r with
  | deconv => exact (relu_eq g).trans (ratMax_eq g 0).symm
  | guided =>
    show relu g * (if 0 < z then 1 else 0) = if 0 < z ∧ 0 < g then g else 0
    rw [relu_eq]
    by_cases hz : 0 < z
    · rw [if_pos hz, mul_one]
      by_cases hg : 0 < g
      · rw [if_pos ⟨hz, hg⟩, max_eq_left hg.le]
      · rw [if_neg fun h => hg h.2, max_eq_right (not_lt.mp hg)]
    · rw [if_neg hz, mul_zero, if_neg fun h => hz h.1]
  | openRelu => rfl

theorem kerasRelu_slope_zero (maxv : Option Rat) (thr z : Rat) :
    kerasRelu maxv thr 0 z =
      (match maxv with
       | none => (if thr < z then z else 0)
       | some m => ratMin (ratMax (if thr < z then z else 0) 0) m) := by
  unfold kerasRelu
  rw [zero_mul, sub_zero]
  cases maxv <;> rfl

theorem layerFwd_override (r : Rule) (l : Layer) (x : Vec) :
    layerFwd (overrideLayer r l) x = layerFwd l x := by
  cases l with
  | dense W b a => cases a <;> rfl
  | activation a => cases a <;> rfl
  | reluLayer m t s => rfl
  | policyLayer r' m t s => rfl

theorem layerVJP_override (r : Rule) (l : Layer) (x g : Vec) :
    layerVJP (overrideLayer r l) x g = specLayerVJP r l x g := by
  -- with the published rule replaced by the installed one, both sides are the same by definition
  unfold specLayerVJP
  rw [← ruleVJP_eq_published r]
  cases l with
  | dense W b a => cases a <;> rfl
  | activation a => cases a <;> rfl
  | reluLayer m t s => rfl
  | policyLayer r' m t s => rfl

theorem specBackward_cons (r : Rule) (l : Layer) (ls : List Layer) (x up : Vec) :
    specBackward r (l :: ls) x up = specLayerVJP r l x (specBackward r ls (layerFwd l x) up) := rfl

end Xp.Net
