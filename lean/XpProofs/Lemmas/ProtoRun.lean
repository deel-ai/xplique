import XpModel.ProtoSel
import XpProofs.Lemmas.Batching
import XpProofs.Lemmas.ProtoTri
import XpProofs.Lemmas.ProtoGreedy
import XpProofs.Lemmas.ProtoSpec

/-! The real configuration `cfgOf` (batches of `b` consecutive rows, tables from the traversal): its padded tables hold
    what `CfgOK` asks (`tables_spec`, `cfgOf_ok`), so every state it reaches is a state of the reference run on `range n`
    (`runFrom_cfgOf`). -/
namespace Xp.ProtoSel

theorem padLast_concat (b : Nat) (t : List (List Rat)) (l : List Rat) : padLast b (t ++ [l]) = t ++ [padTo b l] := by
  unfold padLast
  rw [List.getLast?_concat, List.dropLast_concat]

theorem padLast_getD_prefix (b : Nat) (t : List (List Rat)) (i : Nat) : t.getD i [] <+: (padLast b t).getD i [] := by
  rcases List.eq_nil_or_concat t with rfl | ⟨t, l, rfl⟩
  · exact List.prefix_rfl
  · rw [List.concat_eq_append, padLast_concat]
    rcases Nat.lt_or_ge i t.length with h | h
    · rw [List.getD_append _ _ _ _ h, List.getD_append _ _ _ _ h]
      exact List.prefix_rfl
    · rw [List.getD_append_right _ _ _ _ h, List.getD_append_right _ _ _ _ h]
      cases i - t.length with
      | zero => exact List.prefix_append l _
      | succ k => exact List.prefix_rfl

/-- no range condition: the default `0` of `get2` is kept by the division -/
theorem get2_map_div (t : List (List Rat)) (d : Rat) (i j : Nat) :
    get2 (t.map fun row => row.map fun v => v / d) i j = get2 t i j / d := by
  have h1 : (t.map fun row => row.map fun v => v / d).getD i [] = (t.getD i []).map fun v => v / d :=
    List.getD_map t [] (fun row : List Rat => row.map fun v => v / d)
  unfold get2
  rw [h1, getD_map_zero (· / d) (zero_div d)]

/-- a cell of a real case in the padded table of per-case values `g`: the padding sits behind it -/
theorem get2_padLast_map (b : Nat) (bt : List (List Nat)) (g : Nat → Rat) (i j : Nat) (hj : j < (bt.getD i []).length) :
    get2 (padLast b (bt.map fun B => B.map g)) i j = g ((bt.getD i []).getD j 0) := by
  obtain ⟨s, hs⟩ := padLast_getD_prefix b (bt.map fun B => B.map g) i
  have h1 : (bt.map fun B => B.map g).getD i [] = (bt.getD i []).map g := List.getD_map bt [] (fun B : List Nat => B.map g)
  have hj' : j < ((bt.getD i []).map g).length := by rw [List.length_map]; exact hj
  unfold get2
  rw [← hs, h1, List.getD_append _ _ _ _ hj', List.getD_eq_getElem _ _ hj', List.getElem_map, List.getD_eq_getElem _ _ hj]

theorem tables_spec (K : Kern) (hsym : ∀ i j, K i j = K j i) (b : Nat) (bt : List (List Nat))
    (i j : Nat) (hj : j < (bt.getD i []).length) :
    get2 (colMeansTable K b bt) i j = mu K bt.flatten ((bt.getD i []).getD j 0) ∧
    get2 (diagTable K b bt) i j = K ((bt.getD i []).getD j 0) ((bt.getD i []).getD j 0) := by
  obtain ⟨h1, h2, h3⟩ := triangular_spec K hsym bt
  unfold colMeansTable diagTable
  simp only
  rw [h1, h2, h3, get2_map_div, get2_padLast_map _ _ _ _ _ hj, get2_padLast_map _ _ _ _ _ hj]
  exact ⟨rfl, rfl⟩

theorem cfgOf_ok (K : Kern) (hsym : ∀ i j, K i j = K j i) (n b : Nat) (hb : 0 < b) (meth : Method)
    (inv : List (List Rat) → List (List Rat)) (eps : Rat) : CfgOK (cfgOf K n b meth inv eps) := by
  constructor
  · intro batch hbatch
    exact (batch_len_le b (List.range n) batch hbatch).1
  · show (batches b (List.range n)).flatten.Nodup
    rw [flatten_batches b hb]
    exact List.nodup_range
  · exact hsym
  · intro q hq
    exact (tables_spec K hsym b (batches b (List.range n)) q.1 q.2 hq.2).1
  · intro q hq
    exact (tables_spec K hsym b (batches b (List.range n)) q.1 q.2 hq.2).2

theorem runFrom_cfgOf (K : Kern) (hsym : ∀ i j, K i j = K j i) (n b : Nat) (hb : 0 < b) (meth : Method)
    (inv : List (List Rat) → List (List Rat)) (eps : Rat) (m k : Nat) :
    let c := cfgOf K n b meth inv eps
    let st := runFrom c (initSel c m) k
    st.cases = (specRunFrom meth inv eps K (List.range n) ([], List.replicate m 0) k).1 ∧
    st.w = (specRunFrom meth inv eps K (List.range n) ([], List.replicate m 0) k).2 ∧
    Inv c st := by
  intro c st
  obtain ⟨h, hinv⟩ := runFrom_spec _ (cfgOf_ok K hsym n b hb meth inv eps) _
    (initSel_inv (cfgOf K n b meth inv eps) m) k
  rw [show (cfgOf K n b meth inv eps).bt.flatten = List.range n from flatten_batches b hb _] at h
  exact ⟨congrArg Prod.fst h, congrArg Prod.snd h, hinv⟩

theorem run_cases (K : Kern) (hsym : ∀ i j, K i j = K j i) (n b : Nat) (hb : 0 < b) (meth : Method)
    (inv : List (List Rat) → List (List Rat)) (eps : Rat) (m : Nat) :
    (run (cfgOf K n b meth inv eps) m).cases
      = greedySpec (objSpec meth inv eps K (List.range n)) (List.range n) m :=
  (runFrom_cfgOf K hsym n b hb meth inv eps m m).1.trans (specRunFrom_fst meth inv eps K (List.range n) _ m)

end Xp.ProtoSel
