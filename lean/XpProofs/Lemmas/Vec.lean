import XpModel.Basic
import XpProofs.Lemmas.Index
import Mathlib.Tactic.Ring
import Mathlib.Algebra.Order.Field.Rat

/-! `sumQ` (linearity, monotonicity and sign of sums over a mapped list of any index type), `meanQ`, `vadd` / `vzero`,
    and the chunked accumulation `foldl vadd` (`foldl_vadd_range`; from the zero vector, as Occlusion and RISE use it,
    `foldl_vadd_vzero`). -/
namespace Xp

@[simp] theorem sumQ_nil : sumQ [] = 0 := rfl
@[simp] theorem sumQ_cons (x : Rat) (xs : List Rat) : sumQ (x :: xs) = x + sumQ xs := rfl

theorem sumQ_append (a b : List Rat) : sumQ (a ++ b) = sumQ a + sumQ b := by
  induction a with
  | nil => exact (zero_add _).symm
  | cons x xs ih => rw [List.cons_append, sumQ_cons, sumQ_cons, ih, add_assoc]

theorem sumQ_flatMap {μ : Type} (l : List μ) (f : μ → List Rat) : sumQ (l.flatMap f) = sumQ (l.map fun a => sumQ (f a)) := by
  induction l with
  | nil => rfl
  | cons a l ih => rw [List.flatMap_cons, sumQ_append, ih]; rfl

theorem sumQ_eq_sum (a : List Rat) : sumQ a = a.sum := by
  induction a with
  | nil => rfl
  | cons x xs ih => simp [ih]

variable {μ : Type}

theorem sumQ_map_add (l : List μ) (f g : μ → Rat) :
    sumQ (l.map fun a => f a + g a) = sumQ (l.map f) + sumQ (l.map g) := by
  induction l with
  | nil => exact (add_zero _).symm
  | cons a l ih => rw [List.map_cons, List.map_cons, List.map_cons, sumQ_cons, sumQ_cons, sumQ_cons, ih, add_add_add_comm]

theorem sumQ_map_sub (l : List μ) (f g : μ → Rat) :
    sumQ (l.map fun a => f a - g a) = sumQ (l.map f) - sumQ (l.map g) := by
  rw [eq_sub_iff_add_eq, ← sumQ_map_add]
  simp only [sub_add_cancel]

theorem sumQ_map_mul_left (c : Rat) (l : List μ) (g : μ → Rat) :
    sumQ (l.map fun a => c * g a) = c * sumQ (l.map g) := by
  induction l with
  | nil => exact (mul_zero c).symm
  | cons a l ih => rw [List.map_cons, List.map_cons, sumQ_cons, sumQ_cons, ih, mul_add]

theorem sumQ_map_div (l : List μ) (g : μ → Rat) (c : Rat) :
    sumQ (l.map fun a => g a / c) = sumQ (l.map g) / c := by
  simp only [div_eq_inv_mul, sumQ_map_mul_left]

theorem sumQ_map_const (l : List μ) (c : Rat) : sumQ (l.map fun _ => c) = (l.length : Rat) * c := by
  induction l with
  | nil => exact (zero_mul c).symm.trans (congrArg (· * c) Nat.cast_zero.symm)
  | cons a l ih => rw [List.map_cons, sumQ_cons, ih, List.length_cons, Nat.cast_succ, add_one_mul, add_comm]

theorem sumQ_map_le (l : List μ) (g h : μ → Rat) (hle : ∀ a ∈ l, g a ≤ h a) :
    sumQ (l.map g) ≤ sumQ (l.map h) := by
  induction l with
  | nil => exact le_refl _
  | cons a l ih =>
    exact add_le_add (hle a List.mem_cons_self) (ih fun b hb => hle b (List.mem_cons_of_mem _ hb))

theorem sumQ_map_eq_zero (l : List μ) (g : μ → Rat) (h : ∀ a ∈ l, g a = 0) : sumQ (l.map g) = 0 := by
  rw [List.map_congr_left h, sumQ_map_const, mul_zero]

theorem sumQ_map_nonneg (l : List μ) (g : μ → Rat) (h0 : ∀ a ∈ l, 0 ≤ g a) : 0 ≤ sumQ (l.map g) := by
  rw [← sumQ_map_eq_zero l (fun _ => 0) fun _ _ => rfl]
  exact sumQ_map_le l _ g h0

theorem sumQ_nonneg (l : List Rat) (h : ∀ v ∈ l, 0 ≤ v) : 0 ≤ sumQ l := by
  rw [← List.map_id l]
  exact sumQ_map_nonneg l id h

theorem sumQ_indicator {μ : Type} (ms : List μ) (p : μ → Bool) (d : μ → Rat) :
    sumQ (ms.map fun m => d m * (if p m then 1 else 0)) = sumQ ((ms.filter p).map d) := by
  induction ms with
  | nil => rfl
  | cons m ms ih =>
    rw [List.map_cons, sumQ_cons, ih, List.filter_cons]
    cases p m with
    | true => rw [if_pos rfl, if_pos rfl, mul_one, List.map_cons, sumQ_cons]
    | false => rw [if_neg Bool.false_ne_true, if_neg Bool.false_ne_true, mul_zero, zero_add]

/-- no length hypothesis: missing entries of `a` count as 0 -/
theorem sumQ_zipWith_getD (a w : List Rat) :
    sumQ (List.zipWith (· * ·) a w) = sumQ ((List.range w.length).map fun k => w.getD k 0 * a.getD k 0) := by
  induction w generalizing a with
  | nil =>
    rw [List.zipWith_nil_right]
    rfl
  | cons y w ih =>
    rw [List.length_cons, List.range_succ_eq_map, List.map_cons, List.map_map, sumQ_cons]
    cases a with
    | nil =>
      -- the tail of the right-hand sum is the right-hand side of `ih []`, whose left-hand side is empty
      have := ih []
      rw [List.zipWith_nil_left] at this ⊢
      rw [List.getD_nil, mul_zero, zero_add]
      exact this
    | cons x a =>
      rw [List.zipWith_cons_cons, sumQ_cons, ih a, mul_comm]
      rfl

theorem meanQ_mul_length (l : List Rat) : meanQ l * (l.length : Rat) = sumQ l := by
  cases l with
  | nil => show meanQ [] * ((0 : Nat) : Rat) = 0; rw [Nat.cast_zero, mul_zero]
  | cons a l => exact div_mul_cancel₀ _ (Nat.cast_ne_zero.mpr (Nat.succ_ne_zero _))

theorem meanQ_nonneg (l : List Rat) (h : ∀ v ∈ l, 0 ≤ v) : 0 ≤ meanQ l :=
  div_nonneg (sumQ_nonneg l h) (Nat.cast_nonneg _)

theorem meanQ_eq_zero (l : List Rat) (h : ∀ v ∈ l, v = 0) : meanQ l = 0 := by
  rw [meanQ, ← List.map_id l, sumQ_map_eq_zero l id h, zero_div]

theorem meanQ_map_const {α : Type} (l : List α) (hl : l ≠ []) (c : Rat) : meanQ (l.map fun _ => c) = c := by
  rw [meanQ, sumQ_map_const, List.length_map]
  exact mul_div_cancel_left₀ c (Nat.cast_ne_zero.mpr (List.length_pos_iff.mpr hl).ne')

theorem meanQ_affine (a b : Rat) (l : List Rat) (h : l ≠ []) :
    meanQ (l.map fun v => a * v + b) = a * meanQ l + b := by
  unfold meanQ
  rw [sumQ_map_add l (fun v => a * v) fun _ => b, sumQ_map_mul_left a l fun v => v, List.map_id',
    sumQ_map_const, List.length_map, add_div, mul_div_assoc,
    mul_div_cancel_left₀ b (Nat.cast_ne_zero.mpr (mt List.length_eq_zero_iff.mp h))]

theorem meanQ_scale (a : Rat) (l : List Rat) : meanQ (l.map fun v => a * v) = a * meanQ l := by
  unfold meanQ
  rw [sumQ_map_mul_left a l fun v => v, List.map_id', List.length_map, mul_div_assoc]

theorem meanQ_const_sub (c : Rat) (l : List Rat) (h : l ≠ []) :
    meanQ (l.map fun v => c - v) = c - meanQ l := by
  rw [show (fun v : Rat => c - v) = fun v => -1 * v + c from funext fun v => by ring, meanQ_affine _ _ _ h]
  ring

theorem meanQ_range_map (n : Nat) (f : Nat → Rat) :
    meanQ ((List.range n).map f) = sumQ ((List.range n).map f) / n := by
  rw [meanQ, List.length_map, List.length_range]

theorem dot_map_map {μ : Type} (l : List μ) (f g : μ → Rat) : dot (l.map f) (l.map g) = sumQ (l.map fun a => f a * g a) := by
  rw [dot, zipWith_map_map_self]

theorem vadd_length (a b : List Rat) (h : a.length = b.length) : (vadd a b).length = a.length := by
  rw [vadd, List.length_zipWith, ← h, Nat.min_self]

theorem vzero_length (n : Nat) : (vzero n).length = n := List.length_replicate

theorem vzero_getD (n k : Nat) : (vzero n).getD k 0 = 0 :=
  getD_forall (P := (· = 0)) rfl (fun _ h => List.eq_of_mem_replicate h) k

theorem vadd_getD (a b : List Rat) (h : a.length = b.length) (k : Nat) :
    (vadd a b).getD k 0 = a.getD k 0 + b.getD k 0 := by
  have hl := vadd_length a b h
  rcases Nat.lt_or_ge k a.length with hk | hk
  · have hkb : k < b.length := h ▸ hk
    have hkv : k < (vadd a b).length := hl.symm ▸ hk
    rw [List.getD_eq_getElem _ _ hkv, List.getD_eq_getElem _ _ hk, List.getD_eq_getElem _ _ hkb]
    exact List.getElem_zipWith
  · have hkb : b.length ≤ k := h ▸ hk
    have hkv : (vadd a b).length ≤ k := hl.symm ▸ hk
    rw [List.getD_eq_default _ _ hkv, List.getD_eq_default a _ hk, List.getD_eq_default b _ hkb, add_zero]

theorem vadd_map (l : List μ) (f g : μ → Rat) : vadd (l.map f) (l.map g) = l.map fun x => f x + g x :=
  zipWith_map_map_self (· + ·) f g l

theorem vzero_eq_range_map (n : Nat) : vzero n = (List.range n).map fun _ => 0 := by
  rw [List.map_const', List.length_range]; rfl

/-- chunked accumulation of a length-`n` vector: `h k m` is what item `m` contributes to coordinate `k`, `a k` the value
    coordinate `k` starts from; any chunking `L` of the items gives the sums over all of them -/
theorem foldl_vadd_range (n : Nat) (h : Nat → μ → Rat) (L : List (List μ)) (a : Nat → Rat) :
    L.foldl (fun acc ch => vadd acc ((List.range n).map fun k => sumQ (ch.map (h k)))) ((List.range n).map a)
      = (List.range n).map fun k => a k + sumQ (L.flatten.map (h k)) := by
  induction L generalizing a with
  | nil => simp
  | cons ch L ih =>
    rw [List.foldl_cons, vadd_map, ih]
    simp only [List.flatten_cons, List.map_append, sumQ_append, add_assoc]

theorem foldl_vadd_vzero (n : Nat) (h : Nat → μ → Rat) (L : List (List μ)) :
    L.foldl (fun acc ch => vadd acc ((List.range n).map fun k => sumQ (ch.map (h k)))) (vzero n)
      = (List.range n).map fun k => sumQ (L.flatten.map (h k)) := by
  rw [vzero_eq_range_map, foldl_vadd_range]
  simp only [zero_add]

end Xp
