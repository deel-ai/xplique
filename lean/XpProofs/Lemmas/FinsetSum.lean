import XpProofs.Lemmas.Vec
import Mathlib.Algebra.BigOperators.Group.Finset.Basic

/-! Bridge from the model's list sums to `Finset` sums, for the proofs that do algebra with `∑`. -/
namespace Xp

theorem sumQ_range (n : Nat) (f : Nat → Rat) : sumQ ((List.range n).map f) = ∑ i ∈ Finset.range n, f i := by
  induction n with
  | zero => rfl
  | succ n ih => rw [List.range_succ, List.map_append, sumQ_append, ih, Finset.sum_range_succ]; simp

theorem dot_eq_sum (r v : List ℚ) :
    dot r v = ∑ j ∈ Finset.range r.length, r.getD j 0 * v.getD j 0 := by
  rw [dot, List.zipWith_comm_of_comm mul_comm, sumQ_zipWith_getD, sumQ_range]

end Xp
