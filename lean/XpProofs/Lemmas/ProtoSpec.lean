import XpModel.ProtoSel
import XpProofs.Lemmas.Vec
import XpProofs.Lemmas.Batching
import XpProofs.Lemmas.MinMax
import XpProofs.Lemmas.ProtoArgmax
import Mathlib.Data.List.Perm.Subperm

/-! The reference side of the prototype search: what `greedySpec` selects, the weights of the reference run, and the insertion sort of the local search. -/
namespace Xp.ProtoSel
variable {α : Type}

theorem batches_length_le (b : Nat) (hb : 0 < b) (xs : List α) (i : Nat) (hi : i < (batches b xs).length) :
    i * b < xs.length :=
  (lt_length_batches b hb xs i).mp hi

theorem greedySpec_succ (obj : List Nat → Nat → Rat) (U : List Nat) (m : Nat) :
    greedySpec obj U (m + 1) =
      match firstArgmax (obj (greedySpec obj U m))
          (U.filter fun c => !((greedySpec obj U m).contains c)) with
      | none => greedySpec obj U m
      | some c => greedySpec obj U m ++ [c] := rfl

theorem greedySpec_prefix (obj : List Nat → Nat → Rat) (U : List Nat) (k m : Nat) (h : k ≤ m) :
    greedySpec obj U k <+: greedySpec obj U m := by
  induction m, h using Nat.le_induction with
  | base => exact List.prefix_rfl
  | succ m _ ih =>
    rw [greedySpec_succ]
    split
    · exact ih
    · exact ih.trans (List.prefix_append _ _)

theorem greedySpec_length_le (obj : List Nat → Nat → Rat) (U : List Nat) (m : Nat) :
    (greedySpec obj U m).length ≤ m := by
  induction m with
  | zero => exact Nat.le_refl 0
  | succ m ih =>
    rw [greedySpec_succ]
    split
    · exact Nat.le_succ_of_le ih
    · rw [List.length_append]; exact Nat.succ_le_succ ih

theorem mem_unselected {U S : List Nat} {x : Nat} :
    x ∈ U.filter (fun c => !(S.contains c)) ↔ x ∈ U ∧ x ∉ S := by
  simp only [List.mem_filter, Bool.not_eq_true', List.contains_eq_mem, decide_eq_false_iff_not]

/-- while fewer cases are selected than the dataset holds, a step finds a candidate: the first maximiser of the objective
    among the cases not selected yet -/
theorem greedySpec_step (obj : List Nat → Nat → Rat) (U : List Nat) (hU : U.Nodup) (m : Nat) (hm : m < U.length) :
    ∃ c, firstArgmax (obj (greedySpec obj U m)) (U.filter fun c => !((greedySpec obj U m).contains c)) = some c ∧
      greedySpec obj U (m + 1) = greedySpec obj U m ++ [c] := by
  rw [greedySpec_succ]
  cases hr : firstArgmax (obj (greedySpec obj U m)) (U.filter fun c => !((greedySpec obj U m).contains c)) with
  | some c => exact ⟨c, rfl, rfl⟩
  | none =>
    -- every case of the dataset would be selected already: impossible with fewer selections than cases
    have hsub : U ⊆ greedySpec obj U m := fun x hx => by
      by_contra hnot
      exact List.not_mem_nil ((firstArgmax_eq_none _ _).mp hr ▸ mem_unselected.mpr ⟨hx, hnot⟩)
    exact absurd ((List.subperm_of_subset hU hsub).length_le.trans (greedySpec_length_le obj U m)) (Nat.not_le.mpr hm)

theorem greedySpec_facts (obj : List Nat → Nat → Rat) (U : List Nat) (hU : U.Nodup) (m : Nat)
    (hm : m ≤ U.length) :
    (greedySpec obj U m).Nodup ∧ (greedySpec obj U m).length = m ∧ ∀ c ∈ greedySpec obj U m, c ∈ U := by
  induction m with
  | zero => exact ⟨List.nodup_nil, rfl, fun _ h => (List.not_mem_nil h).elim⟩
  | succ m ih =>
    obtain ⟨hnd, hlen, hsub⟩ := ih (Nat.le_of_succ_le hm)
    obtain ⟨c, hc, e⟩ := greedySpec_step obj U hU m hm
    obtain ⟨hcU, hcS⟩ := mem_unselected.mp (firstArgmax_mem _ _ _ hc)
    rw [e]
    exact ⟨List.nodup_append.mpr ⟨hnd, List.pairwise_singleton _ c,
        fun a ha b hb hab => hcS (List.mem_singleton.mp hb ▸ hab ▸ ha)⟩,
      by rw [List.length_append, hlen]; rfl,
      fun x hx => (List.mem_append.mp hx).elim (hsub x) fun h => List.mem_singleton.mp h ▸ hcU⟩

theorem greedySpec_argmax (obj : List Nat → Nat → Rat) (n m : Nat) (hm : m < n) :
    ∃ c, greedySpec obj (List.range n) (m + 1) = greedySpec obj (List.range n) m ++ [c] ∧
      c < n ∧ c ∉ greedySpec obj (List.range n) m ∧
      (∀ y, y < n → y ∉ greedySpec obj (List.range n) m →
        obj (greedySpec obj (List.range n) m) y ≤ obj (greedySpec obj (List.range n) m) c) ∧
      (∀ y, y < c → y ∉ greedySpec obj (List.range n) m →
        obj (greedySpec obj (List.range n) m) y < obj (greedySpec obj (List.range n) m) c) := by
  obtain ⟨c, hr, e⟩ := greedySpec_step obj (List.range n) List.nodup_range m (by rw [List.length_range]; exact hm)
  obtain ⟨hcn, hcS⟩ := mem_unselected.mp (firstArgmax_mem _ _ _ hr)
  rw [List.mem_range] at hcn
  exact ⟨c, e, hcn, hcS,
    fun y hy hys => firstArgmax_max _ _ _ hr y (mem_unselected.mpr ⟨List.mem_range.mpr hy, hys⟩),
    fun y hy hys => firstArgmax_lt_of_sorted _ _ (List.Pairwise.filter _ List.pairwise_lt_range) c hr y
      (mem_unselected.mpr ⟨List.mem_range.mpr (lt_trans hy hcn), hys⟩) hy⟩

theorem specRunFrom_fst (meth : Method) (inv : List (List Rat) → List (List Rat)) (eps : Rat) (K : Kern)
    (U : List Nat) (w0 : List Rat) (k : Nat) :
    (specRunFrom meth inv eps K U ([], w0) k).1 = greedySpec (objSpec meth inv eps K U) U k := by
  induction k with
  | zero => rfl
  | succ k ih =>
    show (specStep meth inv eps K U (specRunFrom meth inv eps K U ([], w0) k)).1 = _
    rw [greedySpec_succ, ← ih]
    unfold specStep
    cases firstArgmax (objSpec meth inv eps K U (specRunFrom meth inv eps K U ([], w0) k).1)
      (List.filter (fun c => !(specRunFrom meth inv eps K U ([], w0) k).1.contains c) U) <;> rfl

theorem pgWeightsOf_nonneg (inv : List (List Rat) → List (List Rat)) (eps : Rat) (km : List (List Rat))
    (mu : List Rat) : ∀ v ∈ pgWeightsOf inv eps km mu, 0 ≤ v := by
  intro v hv
  obtain ⟨a, _, rfl⟩ := List.mem_map.mp hv
  exact relu_nonneg a

theorem nonneg_append_drop {h w : List Rat} (k : Nat) (hh : ∀ v ∈ h, 0 ≤ v) (hw : ∀ v ∈ w, 0 ≤ v) :
    ∀ v ∈ h ++ w.drop k, 0 ≤ v :=
  fun v hv => (List.mem_append.mp hv).elim (hh v) fun h => hw v (List.mem_of_mem_drop h)

theorem weightsStep_nonneg (meth : Method) (inv : List (List Rat) → List (List Rat)) (eps : Rat) (K : Kern)
    (U S : List Nat) (x : Nat) (w : List Rat) (hw : ∀ v ∈ w, 0 ≤ v) :
    ∀ v ∈ weightsStep meth inv eps K U S x w, 0 ≤ v := by
  cases meth with
  | mmd => exact nonneg_append_drop _ (fun v h => by rw [(List.mem_replicate.mp h).2]; exact zero_le_one) hw
  | greedy => exact nonneg_append_drop _ (pgWeightsOf_nonneg _ _ _ _) hw
  | dash =>
    intro v hv
    unfold weightsStep dashUpdate at hv
    simp only at hv
    split at hv
    · rcases List.mem_or_eq_of_mem_set hv with h | h
      · exact hw v h
      · rw [h]
    · exact nonneg_append_drop _ (pgWeightsOf_nonneg _ _ _ _) hw v hv

theorem specRunFrom_nonneg (meth : Method) (inv : List (List Rat) → List (List Rat)) (eps : Rat) (K : Kern)
    (U : List Nat) (st : List Nat × List Rat) (hw : ∀ v ∈ st.2, 0 ≤ v) (k : Nat) :
    ∀ v ∈ (specRunFrom meth inv eps K U st k).2, 0 ≤ v := by
  induction k with
  | zero => exact hw
  | succ k ih =>
    show ∀ v ∈ (specStep meth inv eps K U (specRunFrom meth inv eps K U st k)).2, 0 ≤ v
    unfold specStep
    split
    · exact ih
    · exact weightsStep_nonneg _ _ _ _ _ _ _ _ ih

theorem normalize_simplex (w w' : List Rat) (hw : ∀ v ∈ w, 0 ≤ v) (h : normalize w = some w') :
    (∀ v ∈ w', 0 ≤ v) ∧ sumQ w' = 1 ∧ w'.length = w.length := by
  unfold normalize at h
  simp only at h
  split at h
  · cases h
  · rename_i hs
    simp only [Option.some.injEq] at h
    subst h
    have hpos : 0 < sumQ w := lt_of_le_of_ne (sumQ_nonneg w hw) (Ne.symm hs)
    refine ⟨?_, ?_, by simp⟩
    · intro v hv
      rw [List.mem_map] at hv
      obtain ⟨a, ha, rfl⟩ := hv
      exact div_nonneg (hw a ha) (le_of_lt hpos)
    · rw [sumQ_map_div w (fun v => v) (sumQ w), List.map_id', div_self hs]

theorem specRunFrom_len (meth : Method) (inv : List (List Rat) → List (List Rat)) (eps : Rat) (K : Kern)
    (n : Nat) (w0 : List Rat) (k : Nat) (hk : k ≤ n) :
    (specRunFrom meth inv eps K (List.range n) ([], w0) k).1.length = k := by
  rw [specRunFrom_fst]
  exact (greedySpec_facts _ _ List.nodup_range k (by simpa using hk)).2.1

theorem pgSpecWeights_length (inv : List (List Rat) → List (List Rat)) (hinv : ∀ M, (inv M).length = M.length)
    (eps : Rat) (K : Kern) (U T : List Nat) : (pgSpecWeights inv eps K U T).length = T.length := by
  simp only [pgSpecWeights, pgWeightsOf, matVec, List.length_map, hinv, addEps, List.length_zipIdx, subMat]

section weights
variable (meth : Method) (inv : List (List Rat) → List (List Rat)) (eps : Rat) (K : Kern) (U : List Nat) (w0 : List Rat)
  (head : List Nat → List Rat) (hlen : ∀ T, (head T).length = T.length)
  (hstep : ∀ S x w, weightsStep meth inv eps K U S x w = head (S ++ [x]) ++ w.drop (S ++ [x]).length)
include hlen hstep

/-- MMD-critic and ProtoGreedy give the selected cases fresh weights `head` and keep the rest of `prototypes_weights`
    (`hlen []` makes `head []` empty, so this also holds before the first step) -/
theorem specRunFrom_weights (k : Nat) :
    (specRunFrom meth inv eps K U ([], w0) k).2
      = head (specRunFrom meth inv eps K U ([], w0) k).1 ++ w0.drop (specRunFrom meth inv eps K U ([], w0) k).1.length := by
  induction k with
  | zero => exact (congrArg (· ++ w0) (List.eq_nil_of_length_eq_zero (hlen []))).symm
  | succ k ih =>
    rw [show specRunFrom meth inv eps K U ([], w0) (k + 1)
      = specStep meth inv eps K U (specRunFrom meth inv eps K U ([], w0) k) from rfl]
    generalize specRunFrom meth inv eps K U ([], w0) k = st at ih ⊢
    unfold specStep
    split
    · exact ih
    · -- the new vector is `head (S ++ [x]) ++ w.drop (|S| + 1)`, and `w.drop |S|` is `w0.drop |S|`
      rw [hstep, List.length_append, ← List.drop_drop, ih, List.drop_left' (hlen _), List.drop_drop]

end weights

theorem insertBy_perm (x : Rat × Nat) (l : List (Rat × Nat)) : (insertBy x l).Perm (x :: l) := by
  induction l with
  | nil => exact List.Perm.refl _
  | cons y ys ih =>
    unfold insertBy
    split
    · exact List.Perm.refl _
    · exact (List.Perm.cons y ih).trans (List.Perm.swap x y ys)

theorem insertBy_sorted (x : Rat × Nat) (l : List (Rat × Nat)) (h : l.Pairwise (fun a b => a.1 ≤ b.1)) :
    (insertBy x l).Pairwise (fun a b => a.1 ≤ b.1) := by
  induction l with
  | nil => simp [insertBy]
  | cons y ys ih =>
    unfold insertBy
    rw [List.pairwise_cons] at h
    split
    · rename_i hxy
      rw [List.pairwise_cons]
      refine ⟨?_, List.pairwise_cons.mpr h⟩
      intro z hz
      rcases List.mem_cons.mp hz with rfl | hz
      · exact le_of_lt hxy
      · exact le_trans (le_of_lt hxy) (h.1 z hz)
    · rename_i hxy
      rw [List.pairwise_cons]
      refine ⟨?_, ih h.2⟩
      intro z hz
      have := (insertBy_perm x ys).mem_iff.mp hz
      rcases List.mem_cons.mp this with rfl | hz'
      · exact not_lt.mp hxy
      · exact h.1 z hz'

theorem foldl_insertBy (l acc : List (Rat × Nat)) (hacc : acc.Pairwise (fun a b => a.1 ≤ b.1)) :
    (l.foldl (fun acc x => insertBy x acc) acc).Pairwise (fun a b => a.1 ≤ b.1) ∧
    (l.foldl (fun acc x => insertBy x acc) acc).Perm (l ++ acc) := by
  induction l generalizing acc with
  | nil => exact ⟨hacc, List.Perm.refl _⟩
  | cons x l ih =>
    obtain ⟨h1, h2⟩ := ih (insertBy x acc) (insertBy_sorted x acc hacc)
    refine ⟨h1, h2.trans ?_⟩
    exact (List.Perm.append_left l (insertBy_perm x acc)).trans List.perm_middle

theorem kNearest_spec (dist : List Rat) (k : Nat) :
    ∃ full : List (Rat × Nat), full.Perm dist.zipIdx ∧ full.Pairwise (fun a b => a.1 ≤ b.1) ∧
      kNearest dist k = full.take k := by
  obtain ⟨h1, h2⟩ := foldl_insertBy dist.zipIdx [] List.Pairwise.nil
  exact ⟨_, by simpa using h2, h1, rfl⟩

end Xp.ProtoSel
