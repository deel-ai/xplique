/-
  List lemmas shared by the C01 (gradient statistics) and C04 (Integrated Gradients) proofs:
  sample-major repetition, regrouping, per-batch → per-sample reduction.
-/
import XpModel.Basic
import XpModel.Reducer
import XpProofs.Lemmas.Batching
import XpProofs.Lemmas.Index

namespace Xp
variable {α β γ : Type}

theorem zip_replicate_right (l : List α) (c : Nat) (t : β) (h : l.length = c) :
    l.zip (List.replicate c t) = l.map fun p => (p, t) := by
  rw [List.zip_eq_zipWith, ← h, ← List.map_const', zipWith_map_right_self]

/-- `repeat_labels` is aligned with any sample-major block structure of block length `c` -/
theorem zip_flatMap_repeatEach (c : Nat) (f : α → List β) (t : α → γ) (l : List α)
    (hf : ∀ a ∈ l, (f a).length = c) :
    (l.flatMap f).zip (repeatEach c (l.map t)) = l.flatMap fun a => (f a).map fun p => (p, t a) := by
  induction l with
  | nil => rfl
  | cons a l ih =>
    have ha : (f a).length = c := hf a List.mem_cons_self
    -- the block of `a` meets exactly the `c` copies of `t a`
    rw [List.map_cons, repeatEach, List.flatMap_cons, List.flatMap_cons, List.flatMap_cons,
      List.zip_append (ha.trans List.length_replicate.symm), zip_replicate_right _ _ _ ha]
    exact congrArg _ (ih fun x hx => hf x (List.mem_cons_of_mem _ hx))

theorem PerSample.batched_eq {op : GradOp} {g : Vec → Vec → Vec} (hop : PerSample op g) (bs : Option Nat)
    (hbs : ∀ b, bs = some b → 0 < b) (l : List (Vec × Vec)) :
    batched op bs l = l.map fun py => g py.1 py.2 :=
  batched_eq_map op _ hop bs hbs l

/-- what both `GradientStatistic.explain` and `IntegratedGradients.explain` do with a batch `l`: every sample `a`
    contributes a block `P a` of `c` points, the targets are repeated `c` times, the gradients are computed in
    operator batches of `b` and reshaped to `(n, c, …)` — sample `a` gets the gradients at its own points, with
    its own target -/
theorem regroup_batched_blocks {op : GradOp} {g : Vec → Vec → Vec} (hop : PerSample op g) (b c : Nat)
    (hb : 0 < b) (hc : 0 < c) (P : α → List Vec) (t : α → Vec) (l : List α)
    (hP : ∀ a ∈ l, (P a).length = c) :
    regroup c (batched op (some b) ((l.flatMap P).zip (repeatEach c (l.map t))))
      = l.map fun a => (P a).map fun p => g p (t a) := by
  rw [hop.batched_eq (some b) (bsPos_some hb), zip_flatMap_repeatEach c P t l hP, List.map_flatMap, regroup,
    batches_flatMap_uniform c hc _ l (fun a ha => by rw [List.length_map, List.length_map, hP a ha])]
  simp only [List.map_map, Function.comp_def]

theorem allSome_map_some (f : α → β) (l : List α) : allSome (l.map fun a => some (f a)) = some (l.map f) := by
  induction l with
  | nil => rfl
  | cons a l ih => rw [List.map_cons, allSome, ih]; rfl

theorem map_eq_range_getD (x : Vec) (h : Rat → Rat) :
    x.map h = (List.range x.length).map fun d => h (x.getD d 0) := by
  conv_lhs => rw [← range_map_getD x 0, List.map_map]
  rfl

end Xp
