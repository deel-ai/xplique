/-
  Lemmas for C14 (Deletion / Insertion).  A flipped sample is a `(List.range F).map …`, read row by row through
  `getD`; the code's row-by-row assignment computes it.  A Python dict filled in a loop holds the first occurrences
  of its keys, in order.  A comparison sort sees the keys only through `leIdx`, so a strictly monotone map of the
  keys changes nothing and negation (without ties) reverses the ranking.  Along a list ordered by decreasing
  weight the first `k` entries outweigh any other `k`: this is the optimum for additive scores.
-/
import XpModel.Causal
import XpProofs.Lemmas.Batching
import XpProofs.Lemmas.Vec
import Mathlib.Data.List.Sort
import Mathlib.Algebra.BigOperators.Group.List.Basic

namespace Xp.Causal
open List

theorem foldl_set_length (e : List (List Rat)) (ids : List Nat) (acc : List (List Rat)) :
    (ids.foldl (fun acc i => acc.set i (e.getD i [])) acc).length = acc.length := by
  induction ids generalizing acc with
  | nil => rfl
  | cons a ids ih => rw [foldl_cons, ih, length_set]

theorem flipImpl_eq_flipSpec (s e : List (List Rat)) (ids : List Nat) :
    flipImpl s e ids = flipSpec s e ids := by
  induction ids generalizing s with
  | nil => exact (range_map_getD s []).symm
  | cons a ids ih =>
    -- the first assignment is made, the others act on the updated rows
    show flipImpl (s.set a (e.getD a [])) e ids = _
    rw [ih, flipSpec, flipSpec, length_set]
    apply List.map_congr_left
    intro i hi
    have hi' : i < s.length := List.mem_range.mp hi
    have hset : (s.set a (e.getD a [])).getD i [] = if a = i then e.getD i [] else s.getD i [] := by
      rw [List.getD_eq_getElem?_getD, List.getElem?_set]
      by_cases hia : a = i
      · subst hia; rw [if_pos rfl, if_pos rfl, if_pos hi']; rfl
      · rw [if_neg hia, if_neg hia, List.getD_eq_getElem?_getD]
    rw [hset, List.contains_cons]
    by_cases hia : a = i
    · subst hia; rw [if_pos rfl, beq_self_eq_true, Bool.true_or, if_pos rfl, ite_self]
    · rw [if_neg hia, beq_false_of_ne (Ne.symm hia), Bool.false_or]

theorem flipSpec_length (s e : List (List Rat)) (ids : List Nat) : (flipSpec s e ids).length = s.length := by
  rw [flipSpec, List.length_map, List.length_range]

theorem flipSpec_getD (s e : List (List Rat)) (ids : List Nat) (i : Nat) (hi : i < s.length) :
    (flipSpec s e ids).getD i [] = if ids.contains i then e.getD i [] else s.getD i [] :=
  getD_range_map s.length _ i hi

theorem flipSpec_nil (s e : List (List Rat)) : flipSpec s e [] = s :=
  range_map_getD s []

theorem flipSpec_all (s e : List (List Rat)) (ids : List Nat) (hlen : s.length = e.length)
    (hall : ∀ i, i < s.length → i ∈ ids) : flipSpec s e ids = e := by
  refine (List.map_congr_left fun i hi => ?_).trans (hlen ▸ range_map_getD e [])
  exact if_pos (List.contains_iff_mem.mpr (hall i (List.mem_range.mp hi)))

theorem flipSpec_uniform (C : Nat) (s e : List (List Rat)) (ids : List Nat) (hlen : s.length = e.length)
    (hs : ∀ r ∈ s, r.length = C) (he : ∀ r ∈ e, r.length = C) : ∀ r ∈ flipSpec s e ids, r.length = C := by
  intro r hr
  obtain ⟨i, hi, rfl⟩ := List.mem_map.mp hr
  have his : i < s.length := List.mem_range.mp hi
  have hie : i < e.length := hlen ▸ his
  split
  · rw [← List.getElem_eq_getD (h := hie)]; exact he _ (List.getElem_mem hie)
  · rw [← List.getElem_eq_getD (h := his)]; exact hs _ (List.getElem_mem his)

theorem dictInsert_map (g : Nat → Rat) (L : List Nat) (k : Nat) :
    dictInsert (L.map fun k => (k, g k)) k (g k)
      = (if L.contains k then L else L ++ [k]).map fun k => (k, g k) := by
  have hany : ((L.map fun k => (k, g k)).any fun p => p.1 == k) = L.contains k := by
    rw [List.any_map, List.contains_eq_any_beq]
    congr 1; funext a; exact BEq.comm
  rw [dictInsert, hany]
  cases L.contains k with
  | false => rw [if_neg Bool.false_ne_true, if_neg Bool.false_ne_true, List.map_append]; rfl
  | true =>
    rw [if_pos rfl, if_pos rfl, List.map_map]
    apply List.map_congr_left
    intro a _
    by_cases hak : a = k
    · rw [hak]; exact if_pos (beq_self_eq_true k)
    · exact if_neg fun h => hak (beq_iff_eq.mp h)

/-- one more assignment acts on the keys of a dict as `dictInsert` does on the dict -/
theorem dedupKeys_concat (ks : List Nat) (k : Nat) :
    dedupKeys (ks ++ [k]) = if (dedupKeys ks).contains k then dedupKeys ks else dedupKeys ks ++ [k] := by
  induction ks with
  | nil => rfl
  | cons a ks ih =>
    rw [List.cons_append, dedupKeys, dedupKeys, ih, List.contains_cons, apply_ite (List.filter _),
      List.filter_append, List.filter_singleton, List.cons_append, ← apply_ite (a :: ·)]
    by_cases hka : k = a
    · -- `k` is the head: it is filtered out of whatever follows
      rw [hka, beq_self_eq_true, Bool.true_or, if_pos rfl, bne_self_eq_false, cond_false, List.append_nil, ite_self]
    · -- otherwise the filter `· ≠ a` neither removes `k` nor changes whether it occurs
      have hmem : ((dedupKeys ks).filter (· != a)).contains k = (dedupKeys ks).contains k := by
        rw [Bool.eq_iff_iff, List.contains_iff_mem, List.contains_iff_mem, List.mem_filter, bne_iff_ne]
        exact and_iff_left hka
      rw [beq_false_of_ne hka, Bool.false_or, hmem, bne_iff_ne.mpr hka, cond_true]

theorem dict_loop (g : Nat → Rat) (steps : List Nat) :
    steps.foldl (fun d k => dictInsert d k (g k)) [] = (dedupKeys steps).map fun k => (k, g k) := by
  -- the loop runs left to right, so the induction is on the last step
  rw [← List.reverse_reverse steps]
  induction steps.reverse with
  | nil => rfl
  | cons k ks ih => rw [List.reverse_cons, List.foldl_concat, ih, dictInsert_map, dedupKeys_concat]

/-- `aucImpl` adds adjacent values `v[:-1] + v[1:]`; their sum counts every value twice except the two ends -/
theorem pairs_sum : ∀ (a : Rat) (l : List Rat),
    sumQ (List.zipWith (· + ·) (a :: l).dropLast (a :: l).tail)
      = 2 * sumQ (a :: l) - a - (a :: l).getLastD 0
  | a, [] => by
    show (0 : Rat) = 2 * (a + 0) - a - a
    ring
  | a, b :: rest => by
    show a + b + sumQ (List.zipWith (· + ·) (b :: rest).dropLast (b :: rest).tail)
      = 2 * (a + sumQ (b :: rest)) - a - (b :: rest).getLastD 0
    rw [pairs_sum b rest]; ring

theorem pairs_length (l : List Rat) : (List.zipWith (· + ·) l.dropLast l.tail).length = l.length - 1 := by
  rw [List.length_zipWith, List.length_dropLast, List.length_tail, Nat.min_self]

theorem linspaceOf_zero (m n : Int) (hn : 1 ≤ n) :
    linspaceOf (0, m, n) = linspaceFloor m.toNat (n.toNat - 1) := if_pos ⟨rfl, hn⟩

theorem linspaceFloor_length (M S : Nat) : (linspaceFloor M S).length = S + 1 := by
  rw [linspaceFloor, List.length_map, List.length_range]

theorem linspaceFloor_getD (M S j d : Nat) (hj : j ≤ S) : (linspaceFloor M S).getD j d = j * M / S :=
  getD_range_map (S + 1) _ j (Nat.lt_succ_of_le hj)

theorem stepsOk_iff (M S : Nat) (ks : List Nat) : stepsOk M S ks = true ↔
    ks.length = S + 1 ∧ ks.getD 0 1 = 0 ∧ (S = 0 ∨ ks.getD S (M + 1) = M) ∧
    (∀ j, j < S + 1 → ks.getD j 0 * S ≤ j * M ∧ j * M ≤ (ks.getD j 0 + 1) * S) ∧
    (∀ j, j < S → ks.getD j 0 ≤ ks.getD (j + 1) 0) := by
  unfold stepsOk
  simp only [Bool.and_eq_true, Bool.or_eq_true, beq_iff_eq, List.all_eq_true, List.mem_range,
    decide_eq_true_eq, and_assoc]

theorem optLe_total : ∀ a b : Option Rat, (optLe a b || optLe b a) = true
  | none, _ => rfl
  | some _, none => rfl
  | some a, some b => by
    rw [Bool.or_eq_true]
    exact (le_total a b).imp decide_eq_true decide_eq_true

theorem optLe_trans : ∀ a b c : Option Rat, optLe a b = true → optLe b c = true → optLe a c = true
  | none, _, _, _, _ => rfl
  | some _, none, _, h, _ => by cases h
  | some _, some _, none, _, h => by cases h
  | some _, some _, some _, h1, h2 => decide_eq_true (le_trans (of_decide_eq_true h1) (of_decide_eq_true h2))

theorem leIdx_total (e : List Rat) (a b : Nat) : (leIdx e a b || leIdx e b a) = true := optLe_total _ _
theorem leIdx_trans (e : List Rat) (a b c : Nat) : leIdx e a b = true → leIdx e b c = true → leIdx e a c = true :=
  optLe_trans _ _ _

theorem leIdx_of_lt (e : List Rat) (i j : Nat) (hi : i < e.length) (hj : j < e.length) :
    leIdx e i j = decide (e[i] ≤ e[j]) := by
  rw [leIdx, List.getElem?_eq_getElem hi, List.getElem?_eq_getElem hj]; rfl

theorem optLe_map (φ : Rat → Rat) (hφ : StrictMono φ) : ∀ a b : Option Rat, optLe (a.map φ) (b.map φ) = optLe a b
  | none, _ => rfl
  | some _, none => rfl
  | some _, some _ => decide_eq_decide.mpr hφ.le_iff_le

theorem leIdx_map (φ : Rat → Rat) (hφ : StrictMono φ) (e : List Rat) : leIdx (e.map φ) = leIdx e := by
  funext i j
  rw [leIdx, leIdx, List.getElem?_map, List.getElem?_map, optLe_map φ hφ]

theorem leIdx_neg (e : List Rat) (a b : Nat) (ha : a < e.length) (hb : b < e.length) :
    leIdx (e.map fun v => -v) a b = leIdx e b a := by
  rw [leIdx_of_lt _ a b (by rwa [List.length_map]) (by rwa [List.length_map]), leIdx_of_lt e b a hb ha,
    List.getElem_map, List.getElem_map]
  exact decide_eq_decide.mpr neg_le_neg_iff

theorem leIdx_antisymm (e : List Rat) (hnd : e.Nodup) (a b : Nat) (ha : a < e.length) (hb : b < e.length)
    (h1 : leIdx e a b = true) (h2 : leIdx e b a = true) : a = b := by
  rw [leIdx_of_lt e a b ha hb, decide_eq_true_eq] at h1
  rw [leIdx_of_lt e b a hb ha, decide_eq_true_eq] at h2
  exact hnd.getElem_inj_iff.mp (le_antisymm h1 h2)

/-- a correct sorting procedure: a sorted permutation whenever the comparison is total and transitive -/
def SortOK (sort : (Nat → Nat → Bool) → List Nat → List Nat) : Prop :=
  ∀ le l, (∀ a b c, le a b = true → le b c = true → le a c = true) →
    (∀ a b, (le a b || le b a) = true) →
    (sort le l).Perm l ∧ (sort le l).Pairwise (fun a b => le a b = true)

theorem mergeSort_ok : SortOK (fun le l => l.mergeSort le) :=
  fun le l ht htot => ⟨mergeSort_perm l le, pairwise_mergeSort ht htot l⟩

theorem argsort_perm (sort : (Nat → Nat → Bool) → List Nat → List Nat) (hs : SortOK sort) (e : List Rat) :
    (argsortDescWith sort e).Perm (List.range e.length) :=
  (List.reverse_perm _).trans (hs _ _ (leIdx_trans e) (leIdx_total e)).1

theorem argsort_sorted (sort : (Nat → Nat → Bool) → List Nat → List Nat) (hs : SortOK sort) (e : List Rat) :
    (argsortDescWith sort e).Pairwise (fun a b => leIdx e b a = true) :=
  List.pairwise_reverse.mpr (hs _ _ (leIdx_trans e) (leIdx_total e)).2

theorem argsort_neg (sort : (Nat → Nat → Bool) → List Nat → List Nat) (hs : SortOK sort) (e : List Rat)
    (hnd : e.Nodup) :
    argsortDescWith sort (e.map fun v => -v) = (argsortDescWith sort e).reverse := by
  unfold argsortDescWith
  rw [List.reverse_reverse, List.length_map]
  have hA := hs (leIdx e) (List.range e.length) (leIdx_trans e) (leIdx_total e)
  have hB := hs (leIdx (e.map fun v => -v)) (List.range e.length) (leIdx_trans _) (leIdx_total _)
  have hlt : ∀ {l : List Nat}, l.Perm (List.range e.length) → ∀ {a}, a ∈ l → a < e.length :=
    fun hl _ ha => List.mem_range.mp (hl.subset ha)
  -- both sides are permutations of the positions, sorted for the antisymmetric `leIdx e`
  apply List.Perm.eq_of_pairwise (le := fun a b => leIdx e a b = true)
  · intro a b ha hb
    exact leIdx_antisymm e hnd a b (hlt ((List.reverse_perm _).trans hB.1) ha) (hlt hA.1 hb)
  · rw [List.pairwise_reverse]
    exact hB.2.imp_of_mem fun ha hb h => leIdx_neg e _ _ (hlt hB.1 ha) (hlt hB.1 hb) ▸ h
  · exact hA.2
  · exact (List.reverse_perm _).trans (hB.1.trans hA.1.symm)

/-- deleting the `F − c` lowest-ranked features = inserting the `c` highest-ranked ones -/
theorem flip_dual (F c : Nat) (s t : List (List Rat)) (o : List Nat) (hs : s.length = F) (ht : t.length = F)
    (ho : o.Perm (List.range F)) (hc : c ≤ F) :
    flipSpec s t (o.reverse.take (F - c)) = flipSpec t s (o.take c) := by
  have hlen : o.length = F := by rw [ho.length_eq, List.length_range]
  have hrev : o.reverse.take (F - c) = (o.drop c).reverse := by
    rw [List.take_reverse, hlen, Nat.sub_sub_self hc]
  unfold flipSpec
  rw [hs, ht, hrev]
  apply List.map_congr_left
  intro i hi
  -- `i` occurs in `o`, hence in exactly one of `o.take c`, `o.drop c`
  have hsplit : i ∈ o.take c ∨ i ∈ o.drop c :=
    List.mem_append.mp (by rw [List.take_append_drop]; exact ho.mem_iff.mpr hi)
  have hdisj := List.disjoint_take_drop (ho.nodup_iff.mpr List.nodup_range) (Nat.le_refl c)
  by_cases h1 : i ∈ o.take c
  · rw [if_neg (by simpa using fun h2 => hdisj h1 h2), if_pos (by simpa using h1)]
  · rw [if_pos (by simpa using hsplit.resolve_left h1), if_neg (by simpa using h1)]

theorem sum_le_sum_take_sorted (w : Nat → Rat) : ∀ (o T : List Nat), o.Pairwise (fun i j => w i ≥ w j) →
    T.Subperm o → sumQ (T.map w) ≤ sumQ ((o.take T.length).map w)
  | [], T, _, hsub => by rw [List.subperm_nil.mp hsub]; exact le_refl _
  | a :: o, T, hp, hsub => by
    have hp' := List.pairwise_cons.mp hp
    by_cases ha : a ∈ T
    · -- `a` heads both sides; the rest of `T` lies in `o`
      have hT := List.perm_cons_erase ha
      have ih := sum_le_sum_take_sorted w o (T.erase a) hp'.2
        ((List.subperm_cons a).mp ((hT.subperm_right).mp hsub))
      rw [sumQ_eq_sum (T.map w), (hT.map w).sum_eq, ← sumQ_eq_sum, hT.length_eq, List.length_cons,
        List.take_succ_cons, List.map_cons, List.map_cons]
      exact add_le_add (le_refl _) ih
    · -- `T` lies in `o`; its head weighs at most `w a`
      have hsub' : T.Subperm o := by
        have := hsub.erase a
        rwa [List.erase_of_not_mem ha, List.erase_cons_head] at this
      cases T with
      | nil => exact le_refl _
      | cons b T =>
        have ih := sum_le_sum_take_sorted w o T hp'.2 ((List.sublist_cons_self b T).subperm.trans hsub')
        rw [List.length_cons, List.take_succ_cons, List.map_cons, List.map_cons]
        exact add_le_add (hp'.1 b (hsub'.subset List.mem_cons_self)) ih

theorem topk_sum_ge (w : Nat → Rat) (F : Nat) (o σ : List Nat) (ho : o.Perm (List.range F))
    (hσ : σ.Perm (List.range F)) (hs : o.Pairwise (fun i j => w i ≥ w j)) (k : Nat) :
    sumQ ((σ.take k).map w) ≤ sumQ ((o.take k).map w) := by
  have h := sum_le_sum_take_sorted w o (σ.take k) hs
    ((List.take_sublist k σ).subperm.trans (hσ.trans ho.symm).subperm)
  rwa [List.length_take, (hσ.trans ho.symm).length_eq, ← List.take_eq_take_min] at h

theorem sum_flip (F : Nat) (u v : Nat → Rat) (ids : List Nat) (hnd : ids.Nodup) (hlt : ∀ i ∈ ids, i < F) :
    sumQ ((List.range F).map fun i => if ids.contains i then v i else u i)
      = sumQ ((List.range F).map u) - sumQ (ids.map fun i => u i - v i) := by
  have h1 : ((List.range F).map fun i => if ids.contains i then v i else u i)
      = (List.range F).map fun i => u i - (u i - v i) * (if ids.contains i then 1 else 0) := by
    apply List.map_congr_left; intro i _
    split
    · rw [mul_one, sub_sub_cancel]
    · rw [mul_zero, sub_zero]
  rw [h1, sumQ_map_sub, sumQ_indicator (List.range F) (fun i => ids.contains i) (fun i => u i - v i)]
  congr 1
  rw [sumQ_eq_sum, sumQ_eq_sum]
  -- the selected positions below `F`, in increasing order, are a rearrangement of `ids`
  apply List.Perm.sum_eq
  apply List.Perm.map
  apply (List.perm_ext_iff_of_nodup (List.nodup_range.filter _) hnd).mpr
  intro a
  rw [List.mem_filter, List.mem_range, List.contains_iff_mem]
  exact ⟨fun h => h.2, fun h => ⟨hlt a h, h⟩⟩

/-- the score decomposes into a constant plus one term per feature row (`F` rows of `C` channels) -/
def FeatAdditive (F C : Nat) (f : List Rat → Rat) (c0 : Rat) (gi : Nat → List Rat → Rat) : Prop :=
  ∀ rows : List (List Rat), rows.length = F → (∀ r ∈ rows, r.length = C) →
    f rows.flatten = c0 + sumQ ((List.range F).map fun i => gi i (rows.getD i []))

theorem FeatAdditive.neg {F C : Nat} {f : List Rat → Rat} {c0 : Rat} {gi : Nat → List Rat → Rat}
    (h : FeatAdditive F C f c0 gi) : FeatAdditive F C (fun z => - f z) (-c0) (fun i r => - gi i r) := by
  intro rows hl hu
  show - f rows.flatten = -c0 + sumQ ((List.range F).map fun i => - gi i (rows.getD i []))
  rw [h rows hl hu, neg_add, sumQ_eq_sum, sumQ_eq_sum, List.sum_neg, List.map_map]
  rfl

theorem score_flip (F C : Nat) (f : List Rat → Rat) (c0 : Rat) (gi : Nat → List Rat → Rat)
    (hadd : FeatAdditive F C f c0 gi) (s t : List (List Rat)) (hs : s.length = F) (ht : t.length = F)
    (hsu : ∀ r ∈ s, r.length = C) (htu : ∀ r ∈ t, r.length = C)
    (l : List Nat) (hl : l.Perm (List.range F)) (k : Nat) :
    f (flipSpec s t (l.take k)).flatten
      = f s.flatten - sumQ ((l.take k).map fun i => gi i (s.getD i []) - gi i (t.getD i [])) := by
  rw [hadd _ ((flipSpec_length s t _).trans hs) (flipSpec_uniform C s t _ (hs.trans ht.symm) hsu htu),
    hadd s hs hsu]
  have : ((List.range F).map fun i => gi i ((flipSpec s t (l.take k)).getD i []))
      = (List.range F).map fun i =>
          if (l.take k).contains i then gi i (t.getD i []) else gi i (s.getD i []) := by
    apply List.map_congr_left; intro i hi
    rw [flipSpec_getD s t _ i (hs ▸ List.mem_range.mp hi), apply_ite (gi i)]
  rw [this, sum_flip F _ _ _ ((hl.nodup_iff.mpr List.nodup_range).sublist (List.take_sublist k l))
    (fun i hi => List.mem_range.mp (hl.subset (List.mem_of_mem_take hi))), add_sub_assoc]

theorem chanMean_one (e : List Rat) : chanMean 1 e = e := by
  unfold chanMean
  induction e with
  | nil => rw [batches_nil]; rfl
  | cons a l ih =>
    rw [batches_cons 1 Nat.one_pos _ (List.cons_ne_nil a l), List.map_cons]
    show meanQ [a] :: (batches 1 l).map meanQ = a :: l
    rw [ih, meanQ, sumQ_cons, sumQ_nil, add_zero, List.length_singleton, Nat.cast_one, div_one]

end Xp.Causal
