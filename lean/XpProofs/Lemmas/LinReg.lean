import XpModel.LinReg
import XpProofs.Lemmas.FinsetSum
import Mathlib.Algebra.Order.BigOperators.Ring.Finset

/-! Penalised weighted least squares over index functions. The loss is a quadratic: expanded around a solution
    of the normal equations it is that solution's loss plus a non-negative excess (`ploss_decomp`), which gives
    minimality, and uniqueness under positive weights and full column rank. The second half reads the list
    model (`loss`, `wlsFit`) as an instance. -/
open Finset BigOperators
namespace Xp.LinReg

def res (m : ℕ) (X : ℕ → ℕ → ℚ) (y : ℕ → ℚ) (b : ℕ → ℚ) (s : ℕ) : ℚ :=
  y s - ∑ j ∈ range m, b j * X s j

/-- penalised weighted least squares: `n` samples, `m` columns, diagonal penalty `p`
    (ridge with unpenalised intercept: last column constant 1, `p = α` except `p_last = 0`) -/
def ploss (n m : ℕ) (w : ℕ → ℚ) (X : ℕ → ℕ → ℚ) (y : ℕ → ℚ) (p : ℕ → ℚ) (b : ℕ → ℚ) : ℚ :=
  ∑ s ∈ range n, w s * res m X y b s ^ 2 + ∑ j ∈ range m, p j * b j ^ 2

/-- gradient form of the normal equations `(XᵀWX + diag p) b = XᵀW y` -/
def NormalEq (n m : ℕ) (w : ℕ → ℚ) (X : ℕ → ℕ → ℚ) (y : ℕ → ℚ) (p : ℕ → ℚ) (b : ℕ → ℚ) : Prop :=
  ∀ k ∈ range m, ∑ s ∈ range n, w s * res m X y b s * X s k = p k * b k

def FullRank (n m : ℕ) (X : ℕ → ℕ → ℚ) : Prop :=
  ∀ v : ℕ → ℚ, (∀ s ∈ range n, ∑ j ∈ range m, v j * X s j = 0) → ∀ j ∈ range m, v j = 0

variable {n m : ℕ} {w : ℕ → ℚ} {X : ℕ → ℕ → ℚ} {y p b : ℕ → ℚ}

theorem sum_sq_shift (s : Finset ℕ) (a r r' : ℕ → ℚ) :
    ∑ i ∈ s, a i * r' i ^ 2
      = ∑ i ∈ s, a i * r i ^ 2 + 2 * ∑ i ∈ s, a i * r i * (r' i - r i) + ∑ i ∈ s, a i * (r' i - r i) ^ 2 := by
  rw [mul_sum, ← sum_add_distrib, ← sum_add_distrib]
  exact sum_congr rfl fun i _ => by ring

theorem res_sub (m : ℕ) (X : ℕ → ℕ → ℚ) (y b b' : ℕ → ℚ) (s : ℕ) :
    res m X y b' s - res m X y b s = -∑ j ∈ range m, (b' j - b j) * X s j := by
  simp only [res, sub_mul, sum_sub_distrib, sub_sub_sub_cancel_left, neg_sub]

theorem NormalEq.cross (hne : NormalEq n m w X y p b) (d : ℕ → ℚ) :
    ∑ s ∈ range n, w s * res m X y b s * ∑ j ∈ range m, d j * X s j = ∑ j ∈ range m, p j * b j * d j := by
  simp only [mul_sum]
  rw [sum_comm]
  refine sum_congr rfl fun j hj => ?_
  rw [← hne j hj, sum_mul]
  exact sum_congr rfl fun s _ => by rw [mul_comm (d j), ← mul_assoc]

theorem ploss_decomp (hne : NormalEq n m w X y p b) (b' : ℕ → ℚ) :
    ploss n m w X y p b' = ploss n m w X y p b
      + (∑ s ∈ range n, w s * (∑ j ∈ range m, (b' j - b j) * X s j) ^ 2
         + ∑ j ∈ range m, p j * (b' j - b j) ^ 2) := by
  have hcross := hne.cross fun j => b' j - b j
  rw [ploss, sum_sq_shift _ w (res m X y b) (res m X y b'), sum_sq_shift _ p b b']
  simp only [res_sub, mul_neg, neg_sq, sum_neg_distrib, hcross]
  rw [ploss]
  ring

theorem ploss_minimiser (hw : ∀ s ∈ range n, 0 ≤ w s) (hp : ∀ j ∈ range m, 0 ≤ p j)
    (hne : NormalEq n m w X y p b) (b' : ℕ → ℚ) : ploss n m w X y p b ≤ ploss n m w X y p b' := by
  rw [ploss_decomp hne b']
  exact le_add_of_nonneg_right (add_nonneg
    (sum_nonneg fun s hs => mul_nonneg (hw s hs) (sq_nonneg _))
    (sum_nonneg fun j hj => mul_nonneg (hp j hj) (sq_nonneg _)))

/-- matrix form `(XᵀWX + diag p) b = XᵀW y`, row by row, gives the gradient form -/
theorem normalEq_of_matrix
    (h : ∀ k ∈ range m,
      ∑ j ∈ range m, ((∑ s ∈ range n, w s * X s k * X s j) + (if k = j then p k else 0)) * b j
        = ∑ s ∈ range n, w s * X s k * y s) :
    NormalEq n m w X y p b := by
  intro k hk
  have hk' := h k hk
  -- row `k`, expanded: `Σ_s Σ_j w_s X_sk X_sj b_j + p_k b_k = Σ_s w_s X_sk y_s`
  simp only [add_mul, sum_add_distrib, ite_mul, zero_mul, sum_ite_eq, if_pos hk, sum_mul] at hk'
  rw [sum_comm] at hk'
  -- the gradient, expanded: `Σ_s w_s y_s X_sk − Σ_s Σ_j w_s (b_j X_sj) X_sk = p_k b_k`
  simp only [res, mul_sub, sub_mul, sum_sub_distrib, mul_sum, sum_mul]
  rw [sub_eq_iff_eq_add, add_comm]
  refine (sum_congr rfl fun s _ => mul_right_comm _ _ _).trans (hk'.symm.trans (congrArg (· + _) ?_))
  exact sum_congr rfl fun s _ => sum_congr rfl fun j _ => by ring

theorem eq_zero_of_sum_mul_sq_le (s : Finset ℕ) (a r : ℕ → ℚ) (ha : ∀ i ∈ s, 0 < a i)
    (h : ∑ i ∈ s, a i * r i ^ 2 ≤ 0) : ∀ i ∈ s, r i = 0 := by
  have hnn : ∀ i ∈ s, 0 ≤ a i * r i ^ 2 := fun i hi => mul_nonneg (ha i hi).le (sq_nonneg _)
  intro i hi
  have := (sum_eq_zero_iff_of_nonneg hnn).mp (le_antisymm h (sum_nonneg hnn)) i hi
  exact pow_eq_zero_iff two_ne_zero |>.mp ((mul_eq_zero.mp this).resolve_left (ha i hi).ne')

/-- the excess of `ploss_decomp` is `≤ 0` only if `b' − b` is in the kernel of the design -/
theorem ploss_minimiser_unique (hw : ∀ s ∈ range n, 0 < w s) (hp : ∀ j ∈ range m, 0 ≤ p j)
    (hr : FullRank n m X) (hne : NormalEq n m w X y p b) {b' : ℕ → ℚ}
    (hle : ploss n m w X y p b' ≤ ploss n m w X y p b) : ∀ j ∈ range m, b' j = b j := by
  rw [ploss_decomp hne b', add_le_iff_nonpos_right] at hle
  have hker := eq_zero_of_sum_mul_sq_le _ w _ hw (le_trans (le_add_of_nonneg_right
    (sum_nonneg fun j hj => mul_nonneg (hp j hj) (sq_nonneg _))) hle)
  exact fun j hj => sub_eq_zero.mp (hr (fun j => b' j - b j) hker j hj)

theorem ploss_congr {b' : ℕ → ℚ} (h : ∀ j ∈ range m, b j = b' j) :
    ploss n m w X y p b = ploss n m w X y p b' := by
  have e : ∀ s, res m X y b s = res m X y b' s := fun s =>
    congrArg (y s - ·) (sum_congr rfl fun j hj => by rw [h j hj])
  exact congrArg₂ (· + ·) (sum_congr rfl fun s _ => by rw [e s]) (sum_congr rfl fun j hj => by rw [h j hj])

/-- the index-function view of the list data handed to `wlsFit`: the design `(Z|1)`, a vector, and the
    ridge penalty that spares the intercept column -/
def Xf (F : ℕ) (Z : List (List ℚ)) (s j : ℕ) : ℚ := aug F (Z.getD s []) j
def vecFn (v : List ℚ) (s : ℕ) : ℚ := v.getD s 0
def penFn (alpha : ℚ) (F : ℕ) (j : ℕ) : ℚ := if j < F then alpha else 0

theorem penFn_zero (F : ℕ) : penFn 0 F = fun _ => 0 := funext fun _ => ite_self 0

theorem penFn_nonneg {alpha : ℚ} (h : 0 ≤ alpha) (F j : ℕ) : 0 ≤ penFn alpha F j := by
  unfold penFn; split; exacts [h, le_rfl]

theorem solveChecked_sound (A : List (List ℚ)) (b v : List ℚ) (h : solveChecked A b = some v) :
    matVec A v = b := by
  unfold solveChecked at h
  split at h
  · cases h
  · split at h
    next hv => cases h; exact hv
    next => cases h

theorem wlsFit_normalEq (alpha : ℚ) (F : ℕ) (Z : List (List ℚ)) (y w bc : List ℚ)
    (h : wlsFit alpha F Z y w = some bc) :
    NormalEq Z.length (F + 1) (vecFn w) (Xf F Z) (vecFn y) (penFn alpha F) (vecFn bc) := by
  refine normalEq_of_matrix fun k hk => ?_
  have hk' : k < F + 1 := mem_range.mp hk
  have hrow := congrArg (·.getD k 0) (solveChecked_sound _ _ _ h)
  simp only [matVec, normalMatrix, normalRhs, List.map_map, getD_range_map _ _ k hk', Function.comp,
    dot_eq_sum, List.length_map, List.length_range, sumQ_range] at hrow
  simp only [vecFn, Xf, penFn]
  rw [← hrow]
  exact sum_congr rfl fun j hj => by rw [getD_range_map _ _ j (mem_range.mp hj), ite_and]

theorem loss_eq_ploss (alpha : ℚ) (F : ℕ) (Z : List (List ℚ)) (y w bc : List ℚ) :
    loss alpha F Z y w bc
      = ploss Z.length (F + 1) (vecFn w) (Xf F Z) (vecFn y) (penFn alpha F) (vecFn bc) := by
  simp only [loss, ploss, res, vecFn, Xf, penFn, sumQ_range, sum_range_succ _ F, lt_irrefl, if_false,
    zero_mul, add_zero, mul_sum, ← sq]
  exact congrArg _ (sum_congr rfl fun j hj => by rw [if_pos (mem_range.mp hj)])

end Xp.LinReg
