import XpModel.Lime
import XpProofs.Lemmas.Batching
import XpProofs.Lemmas.Vec

/-! Lime's data flow: cell `i` of the masked input in terms of the drawn sample (`applyMask_getD`), its agreement
    with the reference definition on binary samples, and the chunk loop as one equation of `FitArgs` records
    (`fitData_eq_map`): only `queries` remembers the chunk size. -/
namespace Xp.Lime

theorem getMask_getD (mapping : List Nat) (s : List Rat) (k : Nat) (hk : k < mapping.length) :
    (getMask mapping s).getD k 0 = s.getD (mapping.getD k 0) 0 :=
  getD_map_of_lt mapping _ 0 hk

theorem cell_lt {cfg : Cfg} {x : List Rat} (hshape : x.length = cfg.mapping.length * cfg.c) {i : Nat}
    (hi : i < x.length) : i / cfg.c < cfg.mapping.length :=
  Nat.div_lt_of_lt_mul (by rwa [Nat.mul_comm, ← hshape])

theorem applyMask_getD (cfg : Cfg) (x s : List Rat) (hshape : x.length = cfg.mapping.length * cfg.c)
    (i : Nat) (hi : i < x.length) :
    (applyMask cfg x (getMask cfg.mapping s)).getD i 0
      = x.getD i 0 * s.getD (cfg.mapping.getD (i / cfg.c) 0) 0
        + (1 - s.getD (cfg.mapping.getD (i / cfg.c) 0) 0) * cfg.ref.getD (i % cfg.c) 0 := by
  rw [applyMask, getD_range_map _ _ i hi, getMask_getD _ _ _ (cell_lt hshape hi)]

theorem maskedSpec_getD (cfg : Cfg) (x s : List Rat) (i : Nat) (hi : i < x.length) :
    (maskedSpec cfg x s).getD i 0
      = if s.getD (cfg.mapping.getD (i / cfg.c) 0) 0 = 1 then x.getD i 0 else cfg.ref.getD (i % cfg.c) 0 :=
  getD_range_map _ _ i hi

theorem applyMask_eq_spec (cfg : Cfg) (x s : List Rat)
    (hshape : x.length = cfg.mapping.length * cfg.c) (hs : Binary s) :
    applyMask cfg x (getMask cfg.mapping s) = maskedSpec cfg x s := by
  refine List.map_congr_left fun i hi => ?_
  rw [getMask_getD _ _ _ (cell_lt hshape (List.mem_range.mp hi))]
  rcases getD_forall (P := fun v => v = 0 ∨ v = 1) (Or.inl rfl) hs (cfg.mapping.getD (i / cfg.c) 0)
    with h | h
  · rw [h, if_neg zero_ne_one, mul_zero, zero_add, sub_zero, one_mul]
  · rw [h, if_pos rfl, mul_one, sub_self, zero_mul, add_zero]

theorem fitData_eq_map (cfg : Cfg) (f : List Rat → Rat) (score : List (List Rat) → List Rat)
    (hscore : ∀ zs, score zs = zs.map f) (κ : Rat → Rat) (width : Rat)
    (d2 : List Rat → List Rat → Rat) (b : Nat) (hb : 0 < b) (x : List Rat) (samples : List (List Rat)) :
    let g := fun s => applyMask cfg x (getMask cfg.mapping s)
    fitData cfg score (expKernel κ width d2) b x samples
      = { design := samples
          targets := samples.map fun s => f (g s)
          weights := samples.map fun s => weightOf κ width (d2 x (g s))
          queries := (batches b samples).map (List.map g) } := by
  simp only [fitData, evalChunk, expKernel, hscore, List.map_map, Function.comp_def, ← List.flatMap_def,
    flatMap_batches_map b hb]

end Xp.Lime
