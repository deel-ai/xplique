/-
  Lemmas for C04: one input batch of IntegratedGradients.explain reduced to a per-input computation
  (`batchRun_eq`), the trapezoid average written over the nodes (`trapzVec_range`, `specOne_flat`), the nodes
  `alpha` = `tf.linspace(0, 1, steps)`, and the fact the completeness theorems rest on: a trapezoid sum whose
  panels are increments of an antiderivative plus a constant error telescopes (`trapz_telescope`).
-/
import XpModel.IG
import XpProofs.Lemmas.GradCommon
import Mathlib.Algebra.BigOperators.Field

namespace Xp.IG

/-- `gradients[:, :-1]` zipped with `gradients[:, 1:]`: the `steps − 1` consecutive pairs -/
theorem trapz_pairs (steps : Nat) (G : Nat → Vec) :
    ((List.range steps).map G).dropLast.zip ((List.range steps).map G).tail
      = (List.range (steps - 1)).map fun j => (G j, G (j + 1)) := by
  cases steps with
  | zero => rfl
  | succ m =>
    have h1 : ((List.range (m + 1)).map G).dropLast = (List.range m).map G := by
      rw [List.range_succ, List.map_append, List.map_singleton, List.dropLast_concat]
    have h2 : ((List.range (m + 1)).map G).tail = (List.range m).map fun j => G (j + 1) := by
      rw [List.range_succ_eq_map, List.map_cons, List.tail_cons, List.map_map]; rfl
    rw [h1, h2, Nat.add_sub_cancel, List.zip_map']

theorem trapzVec_range (D steps : Nat) (G : Nat → Vec) :
    trapzVec D ((List.range steps).map G) = (List.range D).map fun d =>
      sumQ ((List.range (steps - 1)).map fun j => (G j).getD d 0 + (G (j + 1)).getD d 0)
        / ((steps - 1 : Nat) : Rat) * (1 / 2) := by
  unfold trapzVec
  simp only [trapz_pairs, List.map_map, List.length_map, List.length_range]
  rfl

theorem batchRun_eq (op : GradOp) (g : Vec → Vec → Vec) (hop : PerSample op g) (steps : Nat) (b : Rat)
    (bsz : Nat) (hb : 0 < bsz) (hs : 0 < steps) (batch : List (Vec × Vec)) :
    batchRun op steps b bsz batch = batch.map fun xy =>
      vmul (xy.1.map (· - b))
        (trapzVec xy.1.length ((List.range steps).map fun j => g (interp steps b xy.1 j) xy.2)) := by
  rw [batchRun, pathPoints, List.flatMap_map, regroup_batched_blocks hop bsz steps hb hs _ (·.2) batch
    (fun _ _ => by rw [List.length_map, List.length_range]), zipWith_map_right_self]
  simp only [List.map_map, Function.comp_def]

theorem specOne_flat (g : Vec → Vec → Vec) (steps : Nat) (b : Rat) (x y : Vec) :
    specOne g steps b x y = (List.range x.length).map fun d =>
      (x.getD d 0 - b) *
        (sumQ ((List.range (steps - 1)).map fun j =>
            (g (interp steps b x j) y).getD d 0 + (g (interp steps b x (j + 1)) y).getD d 0)
          / ((steps : Rat) - 1) / 2) := by
  unfold specOne
  apply List.map_congr_left; intro d _
  congr 4
  apply List.map_congr_left; intro j hj
  have hj' : j < steps - 1 := List.mem_range.mp hj
  rw [getD_range_map _ _ _ (Nat.lt_of_lt_pred hj'), getD_range_map _ _ _ (Nat.add_lt_of_lt_sub hj')]

/-- directional derivative of the score along the path at node `j`: `⟨x − b, g(point_j)⟩`
    (= `φ'(α_j)` for `φ(t) = score(b + t (x − b))`, by the chain rule) -/
def dirDeriv (g : Vec → Vec → Vec) (steps : Nat) (b : Rat) (x y : Vec) (j : Nat) : Rat :=
  sumQ ((List.range x.length).map fun d => (x.getD d 0 - b) * (g (interp steps b x j) y).getD d 0)

theorem alpha_zero (steps : Nat) : alpha steps 0 = 0 := by
  rw [alpha, Nat.cast_zero, zero_div]

theorem alpha_succ (steps j : Nat) : alpha steps (j + 1) = alpha steps j + ((steps : Rat) - 1)⁻¹ := by
  rw [alpha, alpha, Nat.cast_succ, add_div, one_div]

theorem alpha_last (steps : Nat) (hs : 2 ≤ steps) : alpha steps (steps - 1) = 1 := by
  rw [alpha, Nat.cast_pred (Nat.lt_of_succ_lt hs)]
  exact div_self (sub_ne_zero.mpr (Nat.cast_ne_one.mpr (Nat.ne_of_gt hs)))

open Finset in
theorem trapz_telescope (f F : Nat → Rat) (w e : Rat) (m : Nat)
    (hp : ∀ j, j < m → (f j + f (j + 1)) / w / 2 = F (j + 1) - F j + e) :
    (∑ j ∈ range m, (f j + f (j + 1))) / w / 2 = F m - F 0 + m * e := by
  rw [sum_div, sum_div, sum_congr rfl fun j hj => hp j (mem_range.mp hj), sum_add_distrib, sum_range_sub,
    sum_const, card_range, nsmul_eq_mul]

end Xp.IG
