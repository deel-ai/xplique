import XpModel.Lime
import Mathlib.Algebra.Ring.Rat

/-! squared Euclidean distance: translation invariance (shared by C07 and C18) -/
namespace Xp.Lime

theorem sqDist_translation (a b : List Rat) (c : Rat) :
    sqDist (a.map (· + c)) (b.map (· + c)) = sqDist a b := by
  simp only [sqDist, List.zipWith_map, add_sub_add_right_eq_sub]

end Xp.Lime
