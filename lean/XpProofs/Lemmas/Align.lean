/-
  Helper lemmas for C05: what the definitions of the alignment model (`nn`, `clampN`, `perturb`, `replaceCol`,
  `MonoOn`) give, a discrete intermediate-value lemma (`nat_ivt`, for the surjectivity of `nn`), and the one-dimensional facts
  about patches behind the Occlusion theorems.
-/
import XpModel.Align
import XpProofs.Lemmas.Vec
import XpProofs.Lemmas.Index

namespace Xp

theorem nat_ivt (F : Nat → Nat) (hstep : ∀ i, F (i + 1) ≤ F i + 1) (n r : Nat) (h0 : F 0 ≤ r) (hn : r ≤ F n) :
    ∃ i, i ≤ n ∧ F i = r := by
  induction n with
  | zero => exact ⟨0, le_refl _, le_antisymm h0 hn⟩
  | succ n ih =>
    rcases Nat.lt_or_ge (F n) r with h | h
    · exact ⟨n + 1, le_refl _, le_antisymm ((hstep n).trans h) hn⟩
    · obtain ⟨i, hi, e⟩ := ih h
      exact ⟨i, Nat.le_succ_of_le hi, e⟩

namespace Align

theorem nn_mono (out inn : Nat) : Monotone (nn out inn) := fun i j hij =>
  min_le_min_right _ (Nat.div_le_div_right (Nat.mul_le_mul_right _ (by omega)))

theorem nn_zero (H g : Nat) (hg : 0 < g) (hgH : g ≤ H) : nn H g 0 = 0 := by
  unfold nn
  rw [Nat.div_eq_of_lt (by omega), Nat.zero_min]

theorem nn_last (H g : Nat) (hg : 0 < g) (hgH : g ≤ H) : nn H g (H - 1) = g - 1 := by
  apply min_eq_right
  obtain ⟨g, rfl⟩ := Nat.exists_eq_succ_of_ne_zero hg.ne'
  obtain ⟨H, rfl⟩ := Nat.exists_eq_succ_of_ne_zero (hg.trans_le hgH).ne'
  rw [Nat.le_div_iff_mul_le (Nat.mul_pos Nat.two_pos H.succ_pos)]
  -- with `g + 1`, `H + 1` for `g`, `H`: both sides are `g * (2 * H + 1)` plus `g`, resp. `2 * H + 1`
  show g * (2 * H + 1 + 1) ≤ (2 * H + 1) * (g + 1)
  rw [Nat.mul_succ g, Nat.mul_succ (2 * H + 1), Nat.mul_comm g]
  exact Nat.add_le_add_left (by omega) _

theorem nn_succ_le (H g i : Nat) (hH : 0 < H) (hgH : g ≤ H) : nn H g (i + 1) ≤ nn H g i + 1 := by
  unfold nn
  rw [← min_add_add_right, ← Nat.add_div_right _ (Nat.mul_pos Nat.two_pos hH)]
  refine min_le_min (Nat.div_le_div_right ?_) (Nat.le_succ _)
  -- the numerator grows by `2 * g ≤ 2 * H`, one unit of the quotient
  rw [Nat.mul_add 2 i 1, Nat.add_right_comm, Nat.add_mul]
  omega

theorem clampN_lt {i lo n : Nat} (top : Nat) (hi : i < n) (hlo : lo < n) : clampN i lo top < n :=
  max_lt hlo (lt_of_le_of_lt (min_le_left _ _) hi)

/-! A patch along one axis is the interval `[a, a + p)`; `i` and `t` are two of its points, `t` inside the region's interval. -/

/-- a patch that contains `i` and a point of `[lo, hi)` keeps `i` less than `p` away from that interval -/
theorem patch_not_far {a p i t lo hi : Nat} (hi' : a ≤ i ∧ i < a + p) (ht : a ≤ t ∧ t < a + p)
    (hlo : lo ≤ t) (hhi : t < hi) : ¬ (i + p ≤ lo ∨ hi + p ≤ i + 1) := by omega

/-- a patch that contains `i` and a point of `[lo, hi]` contains the point of `[lo, hi]` nearest to `i` -/
theorem patch_clampN {a p i t lo hi : Nat} (hi' : a ≤ i ∧ i < a + p) (ht : a ≤ t ∧ t < a + p)
    (hlo : lo ≤ t) (hhi : t ≤ hi) : a ≤ clampN i lo hi ∧ clampN i lo hi < a + p :=
  ⟨le_max_of_le_right (le_min hi'.1 (ht.1.trans hhi)),
   max_lt (lt_of_le_of_lt hlo ht.2) (lt_of_le_of_lt (min_le_left _ _) hi'.2)⟩

theorem perturb_getD (pf : Pert) (g H W chan : Nat) (x x0 row : List Rat) (k : Nat) :
    (perturb pf g H W chan x x0 row).getD k 0
      = if k < x.length then pf.apply (x.getD k 0) (x0.getD k 0)
          (if k / chan < H * W then row.getD (cellOf g g H W (k / chan)) 0 else 0) else 0 := by
  unfold perturb upNN
  rw [getD_range_map_ite, getD_range_map_ite]

theorem replaceCol_getD_ne (ra rb : List Rat) {i c : Nat} (h : c ≠ i) :
    (replaceCol ra rb i).getD c 0 = ra.getD c 0 := by
  unfold replaceCol
  simp only [List.getD_eq_getElem?_getD]
  rw [List.getElem?_set_ne h.symm]

theorem MonoOn.ignores {f : List Rat → Rat} {R : Nat → Prop} {n : Nat} (h : MonoOn f R n) (z z' : List Rat)
    (hz : z.length = n) (hz' : z'.length = n) (he : ∀ j, R j → z.getD j 0 = z'.getD j 0) : f z = f z' :=
  le_antisymm (h z z' hz hz' fun j hj => (he j hj).le) (h z' z hz' hz fun j hj => (he j hj).ge)

end Align
end Xp
