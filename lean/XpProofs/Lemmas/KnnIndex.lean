/-
  Lemmas on the distance order, on the model's insertion sort (it is Mathlib's `insertionSort`), on the reference `smallestKeys` (it depends only on the multiset of keys and
  ignores `+inf` padding), on `dataset_gather` over `batches` with `(batch, position)` indices, on the
  table columns enumerated by the search loops, and the loop itself on any table
  (`search`): `KNN.kneighbors`, `FilterKNN.kneighbors` and `BaseKLEORSearch.kneighbors` are instances.
-/
import XpModel.TopK
import XpProofs.Lemmas.Batching
import XpProofs.Lemmas.TopK
import Mathlib.Algebra.Order.Field.Rat

namespace Xp.TopK
variable {γ β δ : Type}

theorem dle_top (a : Dist) : dle a none = true := by cases a <;> rfl

theorem dle_top_left {a : Dist} (h : dle none a = true) : a = none := by
  cases a with
  | none => rfl
  | some x => exact absurd h Bool.false_ne_true

theorem dle_some (x y : Rat) : dle (some x) (some y) = true ↔ x ≤ y := decide_eq_true_iff

theorem dle_totalPre : TotalPre dle where
  total
    | _, none => Or.inl (dle_top _)
    | none, some _ => Or.inr (dle_top _)
    | some x, some y => (le_total x y).imp (dle_some x y).mpr (dle_some y x).mpr
  trans
    | _, _, none, _, _ => dle_top _
    | _, none, some _, _, h => absurd h Bool.false_ne_true
    | none, some _, some _, h, _ => absurd h Bool.false_ne_true
    | some x, some y, some z, h1, h2 =>
      (dle_some x z).mpr (le_trans ((dle_some x y).mp h1) ((dle_some y z).mp h2))

theorem dle_antisymm : ∀ a b : Dist, dle a b = true → dle b a = true → a = b
  | none, _, h, _ => (dle_top_left h).symm
  | some _, none, _, h => dle_top_left h
  | some x, some y, h1, h2 => congrArg some (le_antisymm ((dle_some x y).mp h1) ((dle_some y x).mp h2))

theorem dle_isSome {a b : Dist} (h : dle a b = true) (hb : b.isSome = true) : a.isSome = true := by
  cases a with
  | some x => rfl
  | none => rw [dle_top_left h] at hb; exact hb

theorem entryLe_totalPre : TotalPre (entryLe (β := β)) where
  total := fun a b => dle_totalPre.total a.key b.key
  trans := fun a b c => dle_totalPre.trans a.key b.key c.key

theorem insSort_eq {α : Type} (le : α → α → Bool) (l : List α) :
    insSort le l = l.insertionSort (fun a b => le a b = true) := by
  have hins : ∀ x l, insertBy le x l = l.orderedInsert (fun a b => le a b = true) x := by
    intro x l
    induction l with
    | nil => rfl
    | cons y ys ih => rw [insertBy, List.orderedInsert_cons, ih]
  induction l with
  | nil => rfl
  | cons x xs ih => rw [insSort, List.insertionSort_cons, hins, ih]

theorem insSort_isSort {α : Type} {le : α → α → Bool} (hle : TotalPre le) : IsSort le (insSort le) := by
  have : Std.Total (fun a b => le a b = true) := ⟨hle.total⟩
  have : IsTrans α (fun a b => le a b = true) := ⟨hle.trans⟩
  intro l
  rw [insSort_eq]
  exact ⟨List.perm_insertionSort _ l, List.pairwise_insertionSort _ l⟩

theorem insSort_of_sorted {α : Type} (le : α → α → Bool) (l : List α)
    (hl : l.Pairwise (fun a b => le a b = true)) : insSort le l = l :=
  (insSort_eq le l).trans hl.insertionSort_eq

theorem sortE_isSort : IsSort (entryLe (β := β)) sortE := insSort_isSort entryLe_totalPre

theorem mergeSort_dle_congr_perm {l₁ l₂ : List Dist} (h : l₁.Perm l₂) :
    l₁.mergeSort dle = l₂.mergeSort dle :=
  List.Perm.eq_of_pairwise (fun a b _ _ => dle_antisymm a b) (dle_totalPre.pairwise_mergeSort _)
    (dle_totalPre.pairwise_mergeSort _)
    (((List.mergeSort_perm l₁ dle).trans h).trans (List.mergeSort_perm l₂ dle).symm)

theorem mergeSort_append_none (F : List Dist) (j : Nat) :
    (F ++ List.replicate j none).mergeSort dle = F.mergeSort dle ++ List.replicate j none := by
  refine List.Perm.eq_of_pairwise (fun a b _ _ => dle_antisymm a b) (dle_totalPre.pairwise_mergeSort _)
    (List.pairwise_append.mpr ⟨dle_totalPre.pairwise_mergeSort F,
      List.pairwise_replicate.mpr (Or.inr rfl), fun a _ b hb => ?_⟩)
    ((List.mergeSort_perm _ dle).trans ((List.mergeSort_perm F dle).symm.append_right _))
  rw [List.eq_of_mem_replicate hb]; exact dle_top a

theorem smallestKeys_perm (k : Nat) {l₁ l₂ : List Dist} (h : l₁.Perm l₂) :
    smallestKeys k l₁ = smallestKeys k l₂ := by
  rw [smallestKeys, smallestKeys, mergeSort_dle_congr_perm (h.append_right _)]

theorem smallestKeys_append_none (k j : Nat) (l : List Dist) :
    smallestKeys k (l ++ List.replicate j none) = smallestKeys k l := by
  -- the extra padding sorts to the end, beyond the first `k`
  rw [smallestKeys, smallestKeys, List.append_assoc,
    mergeSort_dle_congr_perm (List.perm_append_comm.append_left l), ← List.append_assoc,
    mergeSort_append_none, List.take_append_of_le_length]
  rw [List.length_mergeSort, List.length_append, List.length_replicate]
  exact Nat.le_add_left k _

theorem smallestKeys_none (k : Nat) (l : List δ) :
    smallestKeys k (l.map fun _ => none) = List.replicate k none := by
  have hnil : smallestKeys k [] = List.replicate k none := by
    rw [smallestKeys, List.nil_append,
      List.mergeSort_of_pairwise (List.pairwise_replicate.mpr (Or.inr rfl)), List.take_replicate,
      Nat.min_self]
  rw [List.map_const', ← List.nil_append (List.replicate _ _), smallestKeys_append_none, hnil]

theorem countP_smallestKeys (k : Nat) (l : List Dist) :
    (smallestKeys k l).countP (·.isSome) = min k (l.countP (·.isSome)) := by
  rw [smallestKeys, countP_take_of_sorted (p := fun d : Dist => d.isSome) (fun _ _ => dle_isSome)
      (dle_totalPre.pairwise_mergeSort _),
    (List.mergeSort_perm _ dle).countP_eq, List.countP_append, List.countP_replicate]
  -- the padding `none` is not `isSome`: it adds `0`
  rfl

theorem gather_batches (b : Nat) (hb : 0 < b) (xs : List γ) (bi p : Nat) :
    gather (batches b xs) (some (bi, p)) = if p < b then xs[bi * b + p]? else none := by
  rw [gather, getElem?_batches b hb]
  by_cases hc : bi * b < xs.length
  · rw [if_pos hc, Option.bind_some, List.getElem?_take, List.getElem?_drop]
  · rw [if_neg hc, Option.bind_none,
      List.getElem?_eq_none (Nat.le_trans (Nat.le_of_not_lt hc) (Nat.le_add_right _ p)), ite_self]

theorem mem_iff_exists_gather (b : Nat) (hb : 0 < b) (xs : List γ) (c : γ) :
    c ∈ xs ↔ ∃ bi p, gather (batches b xs) (some (bi, p)) = some c := by
  constructor
  · intro hc
    obtain ⟨i, hi, rfl⟩ := List.mem_iff_getElem.mp hc
    refine ⟨i / b, i % b, ?_⟩
    rw [gather_batches b hb, if_pos (Nat.mod_lt i hb), Nat.div_add_mod' i b, List.getElem?_eq_getElem hi]
  · rintro ⟨bi, p, h⟩
    rw [gather_batches b hb] at h
    split at h
    · exact List.mem_of_getElem? h
    · cases h

/-- every table column the loop ever sees for the cases (all batches, in order) -/
def allE (mk : γ → Nat → Nat → Entry β) (bsz : Nat) (cases : List γ) : List (Entry β) :=
  (allBatchEntries mk bsz cases).flatten

theorem mem_batchEntries (mk : γ → Nat → Nat → Entry β) (bi : Nat) (batch : List γ) (e : Entry β) :
    e ∈ batchEntries mk bi batch ↔ ∃ p c, batch[p]? = some c ∧ e = mk c bi p := by
  rw [batchEntries, List.mem_map]
  constructor
  · rintro ⟨⟨c, p⟩, h, rfl⟩
    exact ⟨p, c, List.mem_zipIdx_iff_getElem?.mp h, rfl⟩
  · rintro ⟨p, c, h, rfl⟩
    exact ⟨(c, p), List.mem_zipIdx_iff_getElem?.mpr h, rfl⟩

theorem mem_allE (mk : γ → Nat → Nat → Entry β) (bsz : Nat) (cases : List γ) (e : Entry β) :
    e ∈ allE mk bsz cases ↔
      ∃ bi p c, gather (batches bsz cases) (some (bi, p)) = some c ∧ e = mk c bi p := by
  rw [allE, allBatchEntries, List.mem_flatten]
  constructor
  · rintro ⟨l, hl, hel⟩
    obtain ⟨⟨batch, bi⟩, hbb, rfl⟩ := List.mem_map.mp hl
    obtain ⟨p, c, hc, rfl⟩ := (mem_batchEntries mk bi batch e).mp hel
    refine ⟨bi, p, c, ?_, rfl⟩
    rw [gather, List.mem_zipIdx_iff_getElem?.mp hbb]
    exact hc
  · rintro ⟨bi, p, c, hg, rfl⟩
    obtain ⟨batch, hb, hc⟩ := Option.bind_eq_some_iff.mp hg
    exact ⟨_, List.mem_map.mpr ⟨(batch, bi), List.mem_zipIdx_iff_getElem?.mpr hb, rfl⟩,
      (mem_batchEntries mk bi batch _).mpr ⟨p, c, hc, rfl⟩⟩

theorem map_batchEntries (mk : γ → Nat → Nat → Entry β) (f : Entry β → δ) (g : γ → δ)
    (hfg : ∀ c bi p, f (mk c bi p) = g c) (bi : Nat) (batch : List γ) :
    (batchEntries mk bi batch).map f = batch.map g := by
  rw [batchEntries, List.map_map]
  conv_rhs => rw [← List.zipIdx_map_fst 0 batch, List.map_map]
  exact List.map_congr_left fun cp _ => hfg cp.1 bi cp.2

theorem map_allE (mk : γ → Nat → Nat → Entry β) (f : Entry β → δ) (g : γ → δ)
    (hfg : ∀ c bi p, f (mk c bi p) = g c) (bsz : Nat) (hb : 0 < bsz) (cases : List γ) :
    (allE mk bsz cases).map f = cases.map g := by
  rw [allE, allBatchEntries, List.map_flatten, List.map_map]
  conv_rhs => rw [← flatten_batches bsz hb cases, List.map_flatten,
    ← List.zipIdx_map_fst 0 (batches bsz cases), List.map_map]
  exact congrArg List.flatten (List.map_congr_left fun bb _ => map_batchEntries mk f g hfg bb.2 bb.1)

theorem allE_idx_nodup (mk : γ → Nat → Nat → Entry β) (idx : Entry β → Option (Nat × Nat))
    (hidx : ∀ c bi p, idx (mk c bi p) = some (bi, p)) (bsz : Nat) (cases : List γ) :
    ((allE mk bsz cases).filterMap idx).Nodup := by
  have hblock : ∀ bi (batch : List γ),
      (batchEntries mk bi batch).filterMap idx = (List.range' 0 batch.length).map (Prod.mk bi) := by
    intro bi batch
    rw [batchEntries, List.filterMap_map, ← List.zipIdx_map_snd 0 batch, List.map_map,
      ← List.filterMap_eq_map]
    exact List.filterMap_congr fun cp _ => hidx cp.1 bi cp.2
  -- the blocks of the batches are duplicate-free and carry pairwise different batch numbers
  rw [allE, allBatchEntries, List.filterMap_flatten, List.map_map, List.nodup_flatten]
  constructor
  · intro l hl
    obtain ⟨bb, _, rfl⟩ := List.mem_map.mp hl
    rw [Function.comp, hblock]
    exact List.Nodup.map (Prod.mk_right_injective _) List.nodup_range'
  · have hn : ((batches bsz cases).zipIdx.map Prod.snd).Nodup :=
      List.zipIdx_map_snd 0 _ ▸ List.nodup_range'
    rw [List.pairwise_map]
    refine (List.pairwise_map.mp hn).imp fun {a b} hab x hx1 hx2 => ?_
    rw [Function.comp, hblock] at hx1 hx2
    obtain ⟨_, _, rfl⟩ := List.mem_map.mp hx1
    obtain ⟨_, _, h⟩ := List.mem_map.mp hx2
    exact hab (congrArg Prod.fst h).symm

/-- `k` initial columns `⟨+inf, v₀⟩`, then one column `mk c bi p` per case, batch after batch:
    `KNN.kneighbors`, `FilterKNN.kneighbors` and `BaseKLEORSearch.kneighbors` differ only in `v₀`
    and `mk` -/
def search (sort : List (Entry β) → List (Entry β)) (k : Nat) (v₀ : β) (mk : γ → Nat → Nat → Entry β)
    (bsz : Nat) (cases : List γ) : List (Entry β) :=
  run sort k (List.replicate k ⟨none, v₀⟩) (allBatchEntries mk bsz cases)

section Search
variable {sort : List (Entry β) → List (Entry β)} (hsort : IsSort entryLe sort) (k : Nat) (v₀ : β)
  (mk : γ → Nat → Nat → Entry β) (bsz : Nat) (cases : List γ)
include hsort

theorem search_isTopK :
    IsTopK entryLe k (List.replicate k ⟨none, v₀⟩ ++ allE mk bsz cases) (search sort k v₀ mk bsz cases) :=
  run_isTopK entryLe_totalPre hsort _
    (isTopK_init (List.pairwise_replicate.mpr (Or.inr rfl)) (List.length_replicate).le)

theorem search_length : (search sort k v₀ mk bsz cases).length = k := by
  rw [(search_isTopK hsort k v₀ mk bsz cases).length_eq, List.length_append, List.length_replicate]
  exact Nat.min_eq_left (Nat.le_add_right k _)

theorem search_mem {e : Entry β} (he : e ∈ search sort k v₀ mk bsz cases) :
    e = ⟨none, v₀⟩ ∨ ∃ bi p c, gather (batches bsz cases) (some (bi, p)) = some c ∧ e = mk c bi p :=
  (List.mem_append.mp ((search_isTopK hsort k v₀ mk bsz cases).mem he)).imp
    List.eq_of_mem_replicate (mem_allE mk bsz cases e).mp

theorem search_nearest {bi p : Nat} {c : γ} (hg : gather (batches bsz cases) (some (bi, p)) = some c)
    (hnot : mk c bi p ∉ search sort k v₀ mk bsz cases) :
    ∀ r ∈ search sort k v₀ mk bsz cases, dle r.key (mk c bi p).key = true :=
  (search_isTopK hsort k v₀ mk bsz cases).nearest
    (List.mem_append_right _ ((mem_allE mk bsz cases _).mpr ⟨bi, p, c, hg, rfl⟩)) hnot

theorem search_keys (key : γ → Dist) (hkey : ∀ c bi p, (mk c bi p).key = key c) (hb : 0 < bsz) :
    (search sort k v₀ mk bsz cases).map (·.key) = smallestKeys k (cases.map key) := by
  rw [(search_isTopK hsort k v₀ mk bsz cases).keys_eq (·.key) dle dle_totalPre dle_antisymm
    (fun _ _ => rfl), smallestKeys]
  congr 1
  apply mergeSort_dle_congr_perm
  rw [List.map_append, map_allE mk (·.key) key hkey bsz hb, List.map_replicate]
  exact List.perm_append_comm

end Search

/-- `tf.argsort` keeps the earlier of two equal columns first, like the stable `sortE` -/
theorem run_sortE_all_top (k : Nat) (init : List (Entry β)) (hlen : init.length = k)
    (hinit : ∀ e ∈ init, e.key = none) (bs : List (List (Entry β)))
    (hbs : ∀ b ∈ bs, ∀ e ∈ b, e.key = none) : run sortE k init bs = init := by
  induction bs with
  | nil => rfl
  | cons b bs ih =>
    have hstep : step sortE k init b = init := by
      rw [step, sortE, insSort_of_sorted, List.take_left' hlen]
      refine List.pairwise_of_forall_mem_list fun x _ y hy => ?_
      rw [entryLe, (List.mem_append.mp hy).elim (hinit y) (hbs b List.mem_cons_self y)]
      exact dle_top _
    rw [run, List.foldl_cons, hstep]
    exact ih fun b' hb' => hbs b' (List.mem_cons_of_mem _ hb')

theorem search_sortE_all_top (k : Nat) (v₀ : β) (mk : γ → Nat → Nat → Entry β) (bsz : Nat)
    (cases : List γ)
    (h : ∀ bi p c, gather (batches bsz cases) (some (bi, p)) = some c → (mk c bi p).key = none) :
    search sortE k v₀ mk bsz cases = List.replicate k ⟨none, v₀⟩ := by
  refine run_sortE_all_top k _ List.length_replicate
    (fun e he => by rw [List.eq_of_mem_replicate he]) _ fun b hb e he => ?_
  obtain ⟨bi, p, c, hg, rfl⟩ := (mem_allE mk bsz cases e).mp (List.mem_flatten.mpr ⟨b, hb, he⟩)
  exact h bi p c hg

end Xp.TopK
