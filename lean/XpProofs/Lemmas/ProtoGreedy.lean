import XpModel.ProtoSel
import XpProofs.Lemmas.Vec
import XpProofs.Lemmas.Index
import XpProofs.Lemmas.ProtoArgmax
import Mathlib.Data.List.Sort

/-! The greedy loop of `find_global_prototypes` against the batch-free reference, for any configuration whose tables are
    right (`CfgOK`): under the loop invariant `Inv` the candidate positions are the unselected dataset rows in dataset order,
    their objectives are the reference objectives and `update` does what the reference step does (`step_spec`), hence the
    whole run is the reference run (`runFrom_spec`). -/
namespace Xp.ProtoSel

/-- dataset row held at position `(batch, position)` -/
def phi (c : Cfg) (q : Nat × Nat) : Nat := (c.bt.getD q.1 []).getD q.2 0

/-- `(batch, position)` is a cell of the padded tables that holds a case of the dataset, not padding -/
def validPos (c : Cfg) (q : Nat × Nat) : Prop := q.1 < c.bt.length ∧ q.2 < (c.bt.getD q.1 []).length

/-- what the greedy loop needs to know about the configuration (established for `cfgOf` from the
    triangular-traversal theorem) -/
structure CfgOK (c : Cfg) : Prop where
  hb : ∀ batch ∈ c.bt, batch.length ≤ c.b
  hnodup : c.bt.flatten.Nodup
  hsym : ∀ i j, c.K i j = c.K j i
  hcm : ∀ q, validPos c q → get2 c.cm q.1 q.2 = mu c.K c.bt.flatten (phi c q)
  hdg : ∀ q, validPos c q → get2 c.dg q.1 q.2 = c.K (phi c q) (phi c q)

/-- the loop state against the positions selected so far: rows, mask (padded shape), selection means and kernel -/
structure Inv (c : Cfg) (st : Sel) : Prop where
  cases_eq : st.cases = st.idx.map (phi c)
  valid : ∀ q ∈ st.idx, validPos c q
  mask_len : st.mask.length = c.bt.length
  mask_row : ∀ row ∈ st.mask, row.length = c.b
  mask_iff : ∀ bi p, getB st.mask bi p = true ↔ (bi, p) ∈ st.idx
  means_eq : st.means = st.cases.map (mu c.K c.bt.flatten)
  ss_eq : st.ss = subMat c.K st.cases

theorem phi_inj (c : Cfg) (hn : c.bt.flatten.Nodup) (q q' : Nat × Nat) (hq : validPos c q)
    (hq' : validPos c q') (h : phi c q = phi c q') : q = q' := by
  obtain ⟨b1, p1⟩ := q
  obtain ⟨b2, p2⟩ := q'
  obtain ⟨hb1, hp1⟩ := hq
  obtain ⟨hb2, hp2⟩ := hq'
  obtain ⟨hnd, hpw⟩ := List.nodup_flatten.mp hn
  unfold phi at h
  simp only at hb1 hp1 hb2 hp2 h
  rw [List.getD_eq_getElem _ _ hb1] at hp1 h
  rw [List.getD_eq_getElem _ _ hb2] at hp2 h
  rw [List.getD_eq_getElem _ _ hp1, List.getD_eq_getElem _ _ hp2] at h
  -- the same row at two places: within one batch it has no duplicates, and two batches share no row
  have hdisj := List.pairwise_iff_getElem.mp hpw
  rcases Nat.lt_trichotomy b1 b2 with hlt | rfl | hlt
  · exact (hdisj b1 b2 hb1 hb2 hlt (List.getElem_mem hp1) (h ▸ List.getElem_mem hp2)).elim
  · rw [(List.Nodup.getElem_inj_iff (hnd _ (List.getElem_mem hb1))).mp h]
  · exact (hdisj b2 b1 hb2 hb1 hlt (List.getElem_mem hp2) (h ▸ List.getElem_mem hp1)).elim

theorem candPositions_eq (mask : List (List Bool)) (b bi len : Nat) (h : len ≤ b) :
    candPositions mask b bi len = (List.range len).filter fun p => !(getB mask bi p) := by
  -- a batch is no longer than `b`, so the positions of `range b` below its length are `range len`
  have hr : (List.range b).filter (fun p => decide (p < len)) = List.range len := by
    apply List.Pairwise.eq_of_mem_iff (r := (· < ·)) (List.Pairwise.filter _ List.pairwise_lt_range)
      List.pairwise_lt_range
    intro a
    simp only [List.mem_filter, List.mem_range, decide_eq_true_eq]
    omega
  unfold candPositions
  rw [← hr, List.filter_filter]

theorem cand_rows (c : Cfg) (st : Sel) (hc : CfgOK c) (hinv : Inv c st) (bi : Nat) (hbi : bi < c.bt.length) :
    (candPositions st.mask c.b bi (c.bt.getD bi []).length).map (fun p => phi c (bi, p))
      = (c.bt.getD bi []).filter fun x => !(st.cases.contains x) := by
  rw [candPositions_eq _ _ _ _ (hc.hb _ (getD_mem _ [] hbi))]
  conv_rhs => rw [← range_map_getD (c.bt.getD bi []) 0, List.filter_map]
  congr 1
  apply List.filter_congr
  intro p hp
  -- a position is masked iff its row is selected: a row sits at one position only
  simp only [Function.comp]
  congr 1
  rw [Bool.eq_iff_iff, hinv.mask_iff, List.contains_iff_mem, hinv.cases_eq, List.mem_map]
  constructor
  · exact fun h => ⟨(bi, p), h, rfl⟩
  · rintro ⟨q, hq, hphi⟩
    rw [← phi_inj c hc.hnodup q (bi, p) (hinv.valid q hq) ⟨hbi, List.mem_range.mp hp⟩ hphi]
    exact hq

/-- all candidate positions of a step, in traversal order -/
def positions (c : Cfg) (st : Sel) : List (Nat × Nat) :=
  c.bt.zipIdx.flatMap fun x => (candPositions st.mask c.b x.2 x.1.length).map fun p => (x.2, p)

theorem mem_zipIdx_getD {l : List (List Nat)} {x : List Nat × Nat} (h : x ∈ l.zipIdx) :
    x.2 < l.length ∧ x.1 = l.getD x.2 [] := by
  obtain ⟨hlt, hx⟩ := List.getElem?_eq_some_iff.mp (List.mem_zipIdx_iff_getElem?.mp h)
  exact ⟨hlt, by rw [List.getD_eq_getElem _ _ hlt, hx]⟩

theorem positions_valid (c : Cfg) (st : Sel) : ∀ q ∈ positions c st, validPos c q := by
  intro q hq
  obtain ⟨x, hx, hq⟩ := List.mem_flatMap.mp hq
  obtain ⟨hlt, hx1⟩ := mem_zipIdx_getD hx
  obtain ⟨p, hp, rfl⟩ := List.mem_map.mp hq
  simp only [candPositions, List.mem_filter, List.mem_range, Bool.and_eq_true, decide_eq_true_eq] at hp
  exact ⟨hlt, by rw [← hx1]; exact hp.2.2⟩

theorem positions_rows (c : Cfg) (st : Sel) (hc : CfgOK c) (hinv : Inv c st) :
    (positions c st).map (phi c) = c.bt.flatten.filter fun x => !(st.cases.contains x) := by
  unfold positions
  rw [List.map_flatMap]
  have h1 : c.bt.zipIdx.flatMap (fun x => ((candPositions st.mask c.b x.2 x.1.length).map fun p => (x.2, p)).map (phi c))
      = c.bt.zipIdx.flatMap (fun x => x.1.filter fun y => !(st.cases.contains y)) := by
    apply List.flatMap_congr
    intro x hx
    obtain ⟨hlt, hx1⟩ := mem_zipIdx_getD hx
    rw [List.map_map, hx1]
    exact cand_rows c st hc hinv x.2 hlt
  rw [h1]
  have h2 : c.bt.zipIdx.flatMap (fun x => x.1.filter fun y => !(st.cases.contains y))
      = (c.bt.zipIdx.map Prod.fst).flatMap (fun b => b.filter fun y => !(st.cases.contains y)) := by
    rw [List.flatMap_map]
  rw [h2, List.zipIdx_map_fst, List.filter_flatten, List.flatMap_def]

theorem stepBest_eq (c : Cfg) (st : Sel) :
    stepBest c st = firstArgmax (·.obj)
      ((positions c st).map fun q => evalCand c st q.1 (c.bt.getD q.1 []) q.2) := by
  unfold stepBest
  have h := foldl_batches_argmax (fun cd : Cand => cd.obj)
    (c.bt.zipIdx.map fun x => (candPositions st.mask c.b x.2 x.1.length).map (evalCand c st x.2 x.1)) none
  rw [List.foldl_map] at h
  unfold batchBest
  rw [h]
  unfold firstArgmax positions
  congr 1
  rw [List.map_flatMap, List.flatMap_def]
  congr 1
  apply List.map_congr_left
  intro x hx
  obtain ⟨_, hx1⟩ := mem_zipIdx_getD hx
  rw [List.map_map]
  apply List.map_congr_left
  intro p _
  simp only [Function.comp]
  rw [← hx1]

theorem extendKernel_eq (ss : List (List Rat)) (cs : List Rat) (d : Rat) (h : ss.length = cs.length) :
    extendKernel ss cs d = List.zipWith (fun row v => row ++ [v]) ss cs ++ [cs ++ [d]] := by
  unfold extendKernel
  rw [List.zipWith_append h]
  rfl

/-- the selection kernel grown by a column and a row for the new prototype `x` ("update the selected prototypes") is the
    sub-matrix of the full kernel; the new column holds `K x s` where the sub-matrix has `K s x`: symmetry -/
theorem update_ss (K : Kern) (hsym : ∀ i j, K i j = K j i) (S : List Nat) (x : Nat) :
    (List.zipWith (fun row v => row ++ [v]) (subMat K S) (S.map fun s => K x s)) ++ [(S.map fun s => K x s) ++ [K x x]]
      = subMat K (S ++ [x]) := by
  unfold subMat
  rw [zipWith_map_map_self, List.map_append, List.map_cons, List.map_nil, List.map_append]
  congr 1
  apply List.map_congr_left
  intro s _
  rw [List.map_append, hsym x s]
  rfl

/-- the `tf.concat` assembly of the kernel matrix of `S ∪ {x}` in `_compute_batch_objectives` gives the same matrix -/
theorem extendKernel_subMat (K : Kern) (hsym : ∀ i j, K i j = K j i) (S : List Nat) (x : Nat) :
    extendKernel (subMat K S) (S.map fun s => K x s) (K x x) = subMat K (S ++ [x]) := by
  rw [extendKernel_eq _ _ _ (by rw [subMat, List.length_map, List.length_map])]
  exact update_ss K hsym S x

/-- the weights `_compute_batch_objectives` returns next to the objective of a candidate (`objectives_weights`; ProtoDash
    returns `None`): those the selection `T`, candidate included, would get -/
def candWeights (meth : Method) (inv : List (List Rat) → List (List Rat)) (eps : Rat) (K : Kern) (U T : List Nat) :
    Option (List Rat) :=
  match meth with
  | .mmd => some (List.replicate T.length 1)
  | .greedy => some (pgSpecWeights inv eps K U T)
  | .dash => none

/-- `candidates_selection_kernel is None` (nothing selected yet) computes what the general branch computes on empty
    blocks -/
theorem batchObjective_none (meth : Method) (inv : List (List Rat) → List (List Rat)) (eps dgc cmc : Rat) :
    batchObjective meth inv eps dgc cmc [] none [] = batchObjective meth inv eps dgc cmc [] (some []) [] := by
  cases meth
  · simp [batchObjective]
  · rfl
  · simp [batchObjective, dot]

/-- the per-batch objective on the values the tables and the loop state hold under `CfgOK` and `Inv` (diagonal cell `K x x`,
    column mean `mu K U x`, selection means, candidate–selection kernel, selection kernel `subMat K S`) is the reference
    objective of the row `x` -/
theorem batchObjective_spec (meth : Method) (inv : List (List Rat) → List (List Rat)) (eps : Rat) (K : Kern)
    (hsym : ∀ i j, K i j = K j i) (U S : List Nat) (x : Nat) :
    batchObjective meth inv eps (K x x) (mu K U x) (S.map (mu K U))
        (if S.length > 0 then some (S.map fun s => K x s) else none) (subMat K S)
      = (objSpec meth inv eps K U S x, candWeights meth inv eps K U (S ++ [x])) := by
  have h : batchObjective meth inv eps (K x x) (mu K U x) (S.map (mu K U))
        (if S.length > 0 then some (S.map fun s => K x s) else none) (subMat K S)
      = batchObjective meth inv eps (K x x) (mu K U x) (S.map (mu K U)) (some (S.map fun s => K x s)) (subMat K S) := by
    cases S with
    | nil => exact batchObjective_none meth inv eps _ _
    | cons a S => rfl
  rw [h]
  cases meth with
  | mmd =>
    have : (S.map fun s => K x s) = S.map fun s => K s x := List.map_congr_left fun s _ => hsym x s
    simp only [batchObjective, objSpec, mmdSpec, candWeights, List.length_map, List.length_append, List.length_cons,
      List.length_nil, this, Nat.cast_add, Nat.cast_one]
  | greedy =>
    simp only [batchObjective, objSpec, pgSpec, pgSpecWeights, candWeights, extendKernel_subMat K hsym, List.map_append,
      List.map_cons, List.map_nil]
  | dash =>
    simp only [batchObjective, objSpec, dashSpec, candWeights, dot_map_map]

/-- what the loop reads for the candidate at a real position (cells of `kernel_col_means` / `kernel_diag`, the incremental
    `selection_selection_kernel`, the candidate–selection kernel) evaluates to the reference objective of its row -/
theorem evalCand_spec (c : Cfg) (hc : CfgOK c) (st : Sel) (hinv : Inv c st) (q : Nat × Nat) (hq : validPos c q) :
    evalCand c st q.1 (c.bt.getD q.1 []) q.2
      = { obj := objSpec c.meth c.inv c.eps c.K c.bt.flatten st.cases (phi c q), bi := q.1, p := q.2,
          w := candWeights c.meth c.inv c.eps c.K c.bt.flatten (st.cases ++ [phi c q]) } := by
  unfold evalCand
  simp only
  rw [hc.hcm q hq, hc.hdg q hq, hinv.means_eq, hinv.ss_eq]
  exact congrArg (fun r : Rat × Option (List Rat) => ({ obj := r.1, bi := q.1, p := q.2, w := r.2 } : Cand))
    (batchObjective_spec c.meth c.inv c.eps c.K hc.hsym c.bt.flatten st.cases (phi c q))

/-- `mask_of_selected[best_batch_index, best_index].assign(True)` at an in-range cell -/
theorem getB_set2 (t : List (List Bool)) (i j i' j' : Nat) (hi : i < t.length)
    (hj : j < (t.getD i []).length) :
    getB (set2 t i j) i' j' = true ↔ getB t i' j' = true ∨ (i' = i ∧ j' = j) := by
  unfold getB set2
  simp only [List.getD_eq_getElem?_getD, List.getElem?_set]
  by_cases hii : i = i'
  · subst hii
    simp only [hi, if_true, Option.getD_some, true_and]
    by_cases hjj : j = j'
    · subst hjj
      have : j < (t[i]?.getD []).length := by simpa [List.getD_eq_getElem?_getD] using hj
      simp [this]
    · simp [hjj, Ne.symm hjj]
  · simp [hii, Ne.symm hii]

/-- the block "update the selected prototypes" of `find_global_prototypes`, for the winner at position `q` -/
theorem update_spec (c : Cfg) (hc : CfgOK c) (st : Sel) (hinv : Inv c st) (q : Nat × Nat)
    (hq : validPos c q) :
    let st' := update c st (evalCand c st q.1 (c.bt.getD q.1 []) q.2)
    st'.cases = st.cases ++ [phi c q] ∧
    st'.w = weightsStep c.meth c.inv c.eps c.K c.bt.flatten st.cases (phi c q) st.w ∧
    Inv c st' := by
  rw [evalCand_spec c hc st hinv q hq]
  have hss : (List.zipWith (fun row v => row ++ [v]) st.ss (st.cases.map fun s => c.K (phi c q) s))
      ++ [(st.cases.map fun s => c.K (phi c q) s) ++ [get2 c.dg q.1 q.2]] = subMat c.K (st.cases ++ [phi c q]) := by
    rw [hinv.ss_eq, hc.hdg q hq, update_ss c.K hc.hsym]
  have hmeans : st.means ++ [get2 c.cm q.1 q.2] = (st.cases ++ [phi c q]).map (mu c.K c.bt.flatten) := by
    rw [List.map_append, hinv.means_eq, hc.hcm q hq]; rfl
  refine ⟨rfl, ?_, ?_⟩
  · unfold update
    simp only
    rw [show (c.bt.getD q.1 []).getD q.2 0 = phi c q from rfl, hss, hmeans]
    -- the weights `evalCand` attached to the winner are those the reference step gives the grown selection
    generalize c.meth = meth
    cases meth <;> simp only [candWeights, weightsStep, objSpec, List.length_append, List.length_cons, List.length_nil,
      Nat.zero_add]
  · have hlt : q.1 < st.mask.length := by rw [hinv.mask_len]; exact hq.1
    have hrow : (st.mask.getD q.1 []).length = c.b := hinv.mask_row _ (getD_mem _ [] hlt)
    constructor
    · show st.cases ++ [phi c q] = (st.idx ++ [(q.1, q.2)]).map (phi c)
      rw [List.map_append, hinv.cases_eq]; rfl
    · intro q' hq'
      rcases List.mem_append.mp hq' with h | h
      · exact hinv.valid q' h
      · rw [List.mem_singleton.mp h]; exact hq
    · exact List.length_set.trans hinv.mask_len
    · intro row hrow'
      rcases List.mem_or_eq_of_mem_set hrow' with h | h
      · exact hinv.mask_row row h
      · rw [h, List.length_set]; exact hrow
    · intro bi p
      show getB (set2 st.mask q.1 q.2) bi p = true ↔ (bi, p) ∈ st.idx ++ [(q.1, q.2)]
      rw [getB_set2 _ _ _ _ _ hlt (by rw [hrow]; exact lt_of_lt_of_le hq.2 (hc.hb _ (getD_mem _ [] hq.1))),
        hinv.mask_iff, List.mem_append, List.mem_singleton, Prod.mk.injEq]
    · exact hmeans
    · exact hss

/-- one pass of `for nb_selected in range(nb_prototypes)` -/
theorem step_spec (c : Cfg) (hc : CfgOK c) (st : Sel) (hinv : Inv c st) :
    ((step c st).cases, (step c st).w)
        = specStep c.meth c.inv c.eps c.K c.bt.flatten (st.cases, st.w) ∧
    Inv c (step c st) := by
  unfold step specStep
  -- the evaluated candidates are the reference objectives of their rows; as rows they are the unselected cases in dataset order
  rw [stepBest_eq, List.map_congr_left fun q hq => evalCand_spec c hc st hinv q (positions_valid c st q hq),
    firstArgmax_map, ← positions_rows c st hc hinv, firstArgmax_map]
  simp only
  cases hr : firstArgmax (fun q => objSpec c.meth c.inv c.eps c.K c.bt.flatten st.cases (phi c q)) (positions c st) with
  | none => exact ⟨rfl, hinv⟩
  | some q =>
    have hq : validPos c q := positions_valid c st q (firstArgmax_mem _ _ _ hr)
    obtain ⟨h1, h2, h3⟩ := update_spec c hc st hinv q hq
    simp only [Option.map_some]
    rw [← evalCand_spec c hc st hinv q hq]
    exact ⟨by rw [h1, h2], h3⟩

theorem initSel_inv (c : Cfg) (m : Nat) : Inv c (initSel c m) := by
  constructor
  · rfl
  · intro q hq; cases hq
  · simp [initSel]
  · intro row hrow
    simp only [initSel, List.mem_replicate] at hrow
    rw [hrow.2]; simp
  · intro bi p
    have hfalse : getB (initSel c m).mask bi p = false :=
      getD_forall (P := fun row : List Bool => row.getD p false = false) rfl
        (fun row h => by
          rw [(List.mem_replicate.mp h).2]
          exact getD_forall (P := fun v => v = false) rfl (fun a ha => (List.mem_replicate.mp ha).2) p) bi
    rw [hfalse]
    exact ⟨fun h => absurd h Bool.false_ne_true, fun h => absurd h List.not_mem_nil⟩
  · rfl
  · rfl

theorem runFrom_spec (c : Cfg) (hc : CfgOK c) (st : Sel) (hinv : Inv c st) (k : Nat) :
    ((runFrom c st k).cases, (runFrom c st k).w)
        = specRunFrom c.meth c.inv c.eps c.K c.bt.flatten (st.cases, st.w) k ∧
    Inv c (runFrom c st k) := by
  induction k with
  | zero => exact ⟨rfl, hinv⟩
  | succ k ih =>
    obtain ⟨h1, h2⟩ := ih
    obtain ⟨h3, h4⟩ := step_spec c hc (runFrom c st k) h2
    refine ⟨?_, h4⟩
    show ((step c (runFrom c st k)).cases, (step c (runFrom c st k)).w) = _
    rw [h3, h1]
    rfl

end Xp.ProtoSel
