import XpModel.Basic
import Mathlib.Tactic.Linarith

/-! The model's `ratMax`, `ratMin`, `relu`, `ratAbs` are Mathlib's `max`, `min`, `|·|`: proofs leave the model's
    versions through these equations and then use the library. Running minimum and maximum of a fold. -/
namespace Xp

theorem ratMax_eq (a b : Rat) : ratMax a b = max a b := by
  unfold ratMax; rw [max_def]
theorem ratMin_eq (a b : Rat) : ratMin a b = min a b := by
  unfold ratMin; rw [min_def]
theorem relu_eq (a : Rat) : relu a = max a 0 := by
  by_cases h : 0 ≤ a
  · rw [relu, if_pos h, max_eq_left h]
  · rw [relu, if_neg h, max_eq_right (le_of_not_ge h)]
theorem ratAbs_eq (a : Rat) : ratAbs a = |a| := by
  unfold ratAbs; split
  · exact (abs_of_nonneg ‹_›).symm
  · exact (abs_of_neg (lt_of_not_ge ‹_›)).symm

theorem relu_nonneg (a : Rat) : 0 ≤ relu a := by
  rw [relu_eq]; exact le_max_right a 0

/-- `(i :: l).min?` is `some (l.foldl min i)` by definition -/
theorem foldl_min_spec {α : Type} [LinearOrder α] (l : List α) (i : α) :
    (∀ a ∈ i :: l, l.foldl min i ≤ a) ∧ l.foldl min i ∈ i :: l :=
  (List.min?_eq_some_iff.mp (rfl : (i :: l).min? = some (l.foldl min i))).symm

theorem foldl_ratMin_spec (l : List Rat) (i : Rat) :
    (∀ a ∈ i :: l, l.foldl ratMin i ≤ a) ∧ l.foldl ratMin i ∈ i :: l := by
  rw [show ratMin = min from funext₂ ratMin_eq]; exact foldl_min_spec l i

theorem foldl_ratMax_spec (l : List Rat) (i : Rat) :
    (∀ a ∈ i :: l, a ≤ l.foldl ratMax i) ∧ l.foldl ratMax i ∈ i :: l := by
  rw [show ratMax = max from funext₂ ratMax_eq]; exact foldl_min_spec (α := ℚᵒᵈ) l i

end Xp
