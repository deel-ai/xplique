/-
  Occlusion, the part that does not depend on the anchor arithmetic generated from the source: what `occlude` and
  the reference masks of an image geometry look like pointwise, and the chunked accumulation, which is independent
  of the chunk size for ANY list of masks (`foldl_sensChunk_eq_sum`).
-/
import XpModel.Occlusion
import XpProofs.Lemmas.Batching
import XpProofs.Lemmas.Vec

namespace Xp.Occl

section
variable (g : Geom) (x : List Rat) (m : List Bool) (v : Rat) (j : Nat)

theorem occlude_length : (occlude g x m v).length = x.length := by
  unfold occlude; rw [List.length_map, List.length_range]

theorem occlude_getD :
    (occlude g x m v).getD j 0 = if m.getD (j / g.chan) false = true ∧ j < x.length then v else x.getD j 0 := by
  unfold occlude
  rw [getD_range_map_ite]
  by_cases hj : j < x.length
  · simp only [hj, and_true, if_true]
  · simp only [hj, and_false, if_false, List.getD_eq_default x _ (Nat.le_of_not_lt hj)]

theorem occlude_getD_uncovered (h : m.getD (j / g.chan) false = false) :
    (occlude g x m v).getD j 0 = x.getD j 0 := by
  rw [occlude_getD, if_neg fun h' => Bool.false_ne_true (h.symm.trans h'.1)]

end

theorem specMasks_two_mem (a b c pa pb sa sb : Nat) (m : List Bool)
    (hm : m ∈ specMasks (.two a b c pa pb sa sb)) :
    ∃ ax ay, ∀ cell, m.getD cell false = true ↔
      cell < a * b ∧ (ax ≤ cell / b ∧ cell / b < ax + pa) ∧ (ay ≤ cell % b ∧ cell % b < ay + pb) := by
  simp only [specMasks, List.mem_flatMap, List.mem_map] at hm
  obtain ⟨ax, _, ay, _, rfl⟩ := hm
  refine ⟨ax, ay, fun cell => ?_⟩
  rw [getD_range_map_ite]
  split
  · rename_i h
    simp only [Bool.and_eq_true, decide_eq_true_eq, h, true_and]
  · rename_i h
    simp only [Bool.false_eq_true, h, false_and]

theorem applyMask_eq_occlude (g : Geom) (x : List Rat) (m : List Bool) (v : Rat) :
    applyMask g x m v = occlude g x m v := by
  unfold applyMask occlude
  apply List.map_congr_left; intro k _
  exact ite_congr rfl (fun _ => by ring) (fun _ => by ring)

theorem foldl_sensChunk_eq_sum (g : Geom) (f : List Rat → Rat) (v : Rat) (b : Nat) (hb : 0 < b) (x : List Rat)
    (ms : List (List Bool)) :
    (batches b ms).foldl
        (fun acc chunk => vadd acc (sensChunk g.nfeat (f x) (chunk.map fun m => (m, f (applyMask g x m v)))))
        (vzero g.nfeat)
      = (List.range g.nfeat).map fun k =>
          sumQ (ms.map fun m => (f x - f (occlude g x m v)) * (if m.getD k false then 1 else 0)) := by
  simp only [sensChunk, List.map_map, applyMask_eq_occlude]
  exact (foldl_vadd_vzero g.nfeat (fun k m => (f x - f (occlude g x m v)) * (if m.getD k false then 1 else 0))
    (batches b ms)).trans (by rw [flatten_batches b hb])

theorem explainOne_eq_sum (g : Geom) (f : List Rat → Rat) (v : Rat) (b : Nat) (hb : 0 < b) (x : List Rat) :
    explainOne g f v b x = (List.range g.nfeat).map fun k =>
      sumQ ((masks g).map fun m => (f x - f (occlude g x m v)) * (if m.getD k false then 1 else 0)) :=
  foldl_sensChunk_eq_sum g f v b hb x (masks g)

theorem explainOne_bs_indep (g : Geom) (f : List Rat → Rat) (v : Rat) (b b' : Nat) (hb : 0 < b) (hb' : 0 < b')
    (x : List Rat) : explainOne g f v b x = explainOne g f v b' x := by
  rw [explainOne_eq_sum g f v b hb, explainOne_eq_sum g f v b' hb']

/-- `explain` maps `explainOne` over the inputs with a positive chunk size, so a description `F` of `explainOne`
    that holds for every positive chunk size describes `explain` -/
theorem explain_eq_zipWith (g : Geom) (f : List Rat → List Rat → Rat) (v : Rat) (bs : Option Nat)
    (hbs : ∀ b, bs = some b → 0 < b) (xs ys : List (List Rat)) (F : (List Rat → Rat) → List Rat → List Rat)
    (hF : ∀ f' b x, 0 < b → explainOne g f' v b x = F f' x) :
    explain g f v bs xs ys = List.zipWith (fun x y => F (fun z => f z y) x) xs ys := by
  cases xs with
  | nil => rfl
  | cons x xs =>
    have hb := effBatch_pos bs hbs (x :: xs).length (Nat.succ_pos _)
    unfold explain
    simp only [hF _ _ _ hb]

theorem explain_bs_indep (g : Geom) (f : List Rat → List Rat → Rat) (v : Rat) (b : Nat) (hb : 0 < b)
    (xs ys : List (List Rat)) : explain g f v (some b) xs ys = explain g f v none xs ys :=
  -- every positive chunk size behaves like chunk size 1
  bs_indep_of_spec (fun bs => explain g f v bs xs ys) _
    (fun bs hbs => explain_eq_zipWith g f v bs hbs xs ys (fun f' x => explainOne g f' v 1 x)
      fun f' b x hb => explainOne_bs_indep g f' v b 1 hb Nat.one_pos x) hb

end Xp.Occl
