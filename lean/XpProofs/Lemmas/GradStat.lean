/-
  Lemmas for C01, GradientStatistic.explain on one input batch.  The `while` loop (generated chunk expression
  `min(pbs, nb - tot)`) lays the sizes of the reference loop `chunkSizes` out one after the other (`chunks_eq`).
  Once `t` noisy copies are processed the online statistic is `stAt … t`: counter `t`, per input the sums of the
  gradients and of their squares over these `t` copies (`update_stAt` is the invariant step, `fold_state` the
  result).  The final value computed from these sums is the statistic of the property (`finalRow_acc`, with the
  variance identity `var_identity`).
-/
import XpModel.GradStat
import XpProofs.Lemmas.GradCommon
import XpProofs.Lemmas.Vec

namespace Xp.GS

/-- what the `while` loop produces when its successive chunk sizes are `cs` and `total_perturbed_samples`
    starts at `t`: the (offset, size) pairs of consecutive blocks -/
def blocksFrom : Nat → List Nat → List (Nat × Nat)
  | _, [] => []
  | t, c :: cs => (t, c) :: blocksFrom (t + c) cs

theorem blocksFrom_sizes (t : Nat) (cs : List Nat) : (blocksFrom t cs).map (·.2) = cs := by
  induction cs generalizing t with
  | nil => rfl
  | cons c cs ih => rw [blocksFrom, List.map_cons, ih]

theorem blocksFrom_flat (t : Nat) (cs : List Nat) :
    (blocksFrom t cs).flatMap (fun tc => (List.range tc.2).map (tc.1 + ·)) = (List.range cs.sum).map (t + ·) := by
  induction cs generalizing t with
  | nil => rfl
  | cons c cs ih =>
    rw [blocksFrom, List.flatMap_cons, ih, List.sum_cons, List.range_add, List.map_append, List.map_map]
    simp only [Function.comp_def, Nat.add_assoc]

theorem gsChunk_nat (pbs nb tot : Nat) :
    (Gen.gsChunk (pbs : Int) (nb : Int) (tot : Int)).toNat = min pbs (nb - tot) := by
  have hmono : Monotone Int.toNat := fun _ _ h => Int.toNat_le_toNat h
  rw [Gen.gsChunk, hmono.map_min, Int.toNat_natCast, Int.toNat_sub]

theorem chunksAux_eq (pbs nb : Nat) (hp : 0 < pbs) : ∀ fuel tot, nb - tot ≤ fuel →
    chunksAux pbs nb fuel tot = blocksFrom tot (chunkSizes pbs (nb - tot)) := by
  intro fuel
  induction fuel with
  | zero =>
    intro tot h
    rw [Nat.le_zero.mp h, chunkSizes_zero]; rfl
  | succ fuel ih =>
    intro tot h
    rw [chunksAux]
    split
    · rename_i ht
      dsimp only
      rw [gsChunk_nat, chunkSizes_pos pbs _ hp (Nat.sub_pos_of_lt ht), blocksFrom, ih _ (chunk_fuel hp ht h),
        Nat.sub_add_eq]
    · rename_i ht
      rw [Nat.sub_eq_zero_of_le (Nat.le_of_not_lt ht), chunkSizes_zero]; rfl

theorem chunks_eq (pbs nb : Nat) (hp : 0 < pbs) : chunks pbs nb = blocksFrom 0 (chunkSizes pbs nb) :=
  chunksAux_eq pbs nb hp nb 0 (Nat.le_refl _)

/-- one iteration of the `while` loop (perturb, repeat the labels, batched gradient, reshape, update) adds to the
    statistic, for every input of the batch, the gradients at its own copies `tot … tot + c − 1` -/
theorem step_eq (op : GradOp) (g : Vec → Vec → Vec) (hop : PerSample op g) (D bsz : Nat) (hb : 0 < bsz)
    (batch : List Item) (st : St) (tc : Nat × Nat) (hc : 0 < tc.2) :
    step op D bsz batch st tc = st.update D tc.2
      (batch.map fun it => (List.range tc.2).map fun k => g (it.pt (tc.1 + k)) it.y) := by
  rw [step, pertPoints, regroup_batched_blocks hop bsz tc.2 hb hc _ (·.y) batch
    (fun _ _ => by rw [List.length_map, List.length_range])]
  simp only [List.map_map, Function.comp_def]

/-- one row of `_actual_sum` (`h = id`) or `_actual_square_sum` (`h a = a * a`) after the first `n` noisy copies
    of the input `it`: per coordinate `d`, the sum of `h (∂s/∂x_d)` over these copies -/
def acc (h : Rat → Rat) (g : Vec → Vec → Vec) (D n : Nat) (it : Item) : Vec :=
  (List.range D).map fun d => sumQ ((List.range n).map fun j => h ((g (it.pt j) it.y).getD d 0))

/-- `_elements_counter`, `_actual_sum`, `_actual_square_sum` of an input batch once `total_perturbed_samples = t` -/
def stAt (g : Vec → Vec → Vec) (D : Nat) (batch : List Item) (t : Nat) : St :=
  ⟨t, batch.map (acc id g D t), batch.map (acc (fun a => a * a) g D t)⟩

theorem stAt_zero (g : Vec → Vec → Vec) (D : Nat) (batch : List Item) : stAt g D batch 0 = St.init batch.length D := by
  -- a sum over no draws evaluates to `0`
  have h0 : ∀ h, acc h g D 0 = fun _ => vzero D := fun h => funext fun it => (vzero_eq_range_map D).symm
  rw [stAt, h0, h0, List.map_const']; rfl

/-- `colSum` (`h = id`) and `colSqSum` (`h a = a * a`) of the next `c` gradients extend the running sum -/
theorem vadd_acc (h : Rat → Rat) (g : Vec → Vec → Vec) (D t c : Nat) (it : Item) :
    vadd (acc h g D t it)
        ((List.range D).map fun d => sumQ (((List.range c).map fun k => g (it.pt (t + k)) it.y).map
          fun v => h (v.getD d 0)))
      = acc h g D (t + c) it := by
  rw [acc, acc, vadd_map]
  apply List.map_congr_left; intro d _
  rw [List.range_add, List.map_append, sumQ_append, List.map_map, List.map_map]
  rfl

theorem update_stAt (g : Vec → Vec → Vec) (D : Nat) (batch : List Item) (t c : Nat) :
    (stAt g D batch t).update D c (batch.map fun it => (List.range c).map fun k => g (it.pt (t + k)) it.y)
      = stAt g D batch (t + c) := by
  rw [stAt, St.update, List.map_map, List.map_map, zipWith_map_map_self, zipWith_map_map_self, stAt]
  congr 1
  · exact List.map_congr_left fun it _ => vadd_acc id g D t c it
  · exact List.map_congr_left fun it _ => vadd_acc (fun a => a * a) g D t c it

theorem fold_blocks (op : GradOp) (g : Vec → Vec → Vec) (hop : PerSample op g) (D bsz : Nat) (hb : 0 < bsz)
    (batch : List Item) (cs : List Nat) (hcs : ∀ c ∈ cs, 0 < c) (t : Nat) :
    (blocksFrom t cs).foldl (step op D bsz batch) (stAt g D batch t) = stAt g D batch (t + cs.sum) := by
  induction cs generalizing t with
  | nil => rfl
  | cons c cs ih =>
    rw [blocksFrom, List.foldl_cons, step_eq op g hop D bsz hb batch _ _ (hcs c List.mem_cons_self),
      update_stAt, ih (fun c' h => hcs c' (List.mem_cons_of_mem _ h)), List.sum_cons, Nat.add_assoc]

theorem fold_state (op : GradOp) (g : Vec → Vec → Vec) (hop : PerSample op g)
    (D bsz pbs nb : Nat) (hb : 0 < bsz) (hp : 0 < pbs) (batch : List Item) :
    (chunks pbs nb).foldl (step op D bsz batch) (St.init batch.length D) = stAt g D batch nb := by
  rw [chunks_eq pbs nb hp, ← stAt_zero g,
    fold_blocks op g hop D bsz hb batch _ (fun c h => (chunkSizes_le pbs nb c h).1), chunkSizes_sum pbs nb hp,
    Nat.zero_add]

theorem sumQ_map_add (l : List Rat) (f g : Rat → Rat) :
    sumQ (l.map fun a => f a + g a) = sumQ (l.map f) + sumQ (l.map g) :=
  Xp.sumQ_map_add l f g

theorem sumQ_map_mul_left (l : List Rat) (c : Rat) (f : Rat → Rat) :
    sumQ (l.map fun a => c * f a) = c * sumQ (l.map f) :=
  Xp.sumQ_map_mul_left c l f

theorem sumQ_map_const (l : List Rat) (c : Rat) : sumQ (l.map fun _ => c) = (l.length : Rat) * c :=
  Xp.sumQ_map_const l c

theorem sumQ_sq_dev (l : List Rat) (m : Rat) :
    sumQ (l.map fun a => (a - m) * (a - m))
      = sumQ (l.map fun a => a * a) - 2 * m * sumQ l + (l.length : Rat) * (m * m) := by
  have h : (fun a : Rat => (a - m) * (a - m)) = fun a => (a * a + (-(2 * m)) * a) + m * m := by
    funext a; ring
  rw [h, sumQ_map_add, sumQ_map_add, sumQ_map_mul_left, sumQ_map_const, List.map_id']
  ring

/-- `n − 1` divides both sides, so only `n ≠ 0` is needed -/
theorem var_identity (l : List Rat) (n : Nat) (hn : n ≠ 0) (hl : l.length = n) :
    ((n : Rat) / ((n : Rat) - 1)) * (sumQ (l.map fun a => a * a) / (n : Rat) - (sumQ l / (n : Rat)) * (sumQ l / (n : Rat)))
      = sumQ (l.map fun a => (a - meanQ l) * (a - meanQ l)) / ((n : Rat) - 1) := by
  have hn0 : (n : Rat) ≠ 0 := Nat.cast_ne_zero.mpr hn
  rw [sumQ_sq_dev, meanQ, hl, div_mul_eq_mul_div, mul_sub, mul_div_cancel₀ _ hn0]
  congr 1
  -- with `m = Σa / n` only `n m = Σa` is needed: both numerators are `Σa² − n m²`
  have hS : (n : Rat) * (sumQ l / n) = sumQ l := mul_div_cancel₀ _ hn0
  generalize sumQ l / (n : Rat) = m at hS ⊢
  rw [← hS]; ring

theorem specOne_flat (g : Vec → Vec → Vec) (k : Kind) (D nb : Nat) (it : Item) :
    specOne g k D nb it = (List.range D).map fun d =>
      let col := (List.range nb).map fun j => (g (it.pt j) it.y).getD d 0
      match k with
      | .smooth => meanQ col
      | .square => meanQ (col.map fun a => a * a)
      | .var => sumQ (col.map fun a => (a - meanQ col) * (a - meanQ col)) / ((nb : Rat) - 1) := by
  unfold specOne
  apply List.map_congr_left; intro d _
  have hcol : ((List.range nb).map fun j => g (it.pt j) it.y).map (fun v => v.getD d 0)
      = (List.range nb).map fun j => (g (it.pt j) it.y).getD d 0 := List.map_map ..
  cases k <;> simp only [hcol]

/-- `_get_online_statistic_final_value` on the running sums of one input is its statistic -/
theorem finalRow_acc (g : Vec → Vec → Vec) (k : Kind) (D nb : Nat) (hvar : k = .var → 2 ≤ nb) (it : Item) :
    finalRow k nb (acc id g D nb it) (acc (fun a => a * a) g D nb it) = specOne g k D nb it := by
  rw [specOne_flat]
  cases k with
  | smooth =>
    rw [finalRow, acc, List.map_map]
    exact List.map_congr_left fun d _ => (meanQ_range_map nb _).symm
  | square =>
    rw [finalRow, acc, List.map_map]
    exact List.map_congr_left fun d _ => by
      show _ = meanQ (((List.range nb).map fun j => (g (it.pt j) it.y).getD d 0).map fun a => a * a)
      rw [List.map_map, meanQ_range_map]
      rfl
  | var =>
    rw [finalRow, acc, acc, zipWith_map_map_self]
    exact List.map_congr_left fun d _ => by
      have h := var_identity ((List.range nb).map fun j => (g (it.pt j) it.y).getD d 0) nb
        (Nat.ne_of_gt (Nat.lt_of_lt_of_le Nat.two_pos (hvar rfl))) (by rw [List.length_map, List.length_range])
      rwa [List.map_map] at h

end Xp.GS
