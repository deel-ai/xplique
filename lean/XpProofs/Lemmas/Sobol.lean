/-
  Lemmas for C08 / C20.  The replicated design and `split_abc` are read through their blocks of equal
  length.  The `Option`-valued statistics (`meanO`, `sampleVar`) and the Jansen and Saltelli estimators get one
  closed form `if guard then … else none`, with a guard about lengths and `n` only; after that all algebra is
  about the plain statistics `meanQ`, `varQ`, `sumSqDiff`, `sumProd`.
-/
import XpModel.Sobol
import XpProofs.Lemmas.Vec
import Mathlib.Tactic.Ring
import Mathlib.Algebra.Order.Field.Rat

namespace Xp.Sobol
variable {α β : Type}

theorem getElem?_foldl_modify_range (f : Nat → α → α) (L : List α) (k j : Nat) :
    ((List.range k).foldl (fun C i => C.modify i (f i)) L)[j]?
      = if j < k then L[j]?.map (f j) else L[j]? := by
  induction k with
  | zero => rfl
  | succ k ih =>
    rw [List.range_succ, List.foldl_append, List.foldl_cons, List.foldl_nil, List.getElem?_modify, ih]
    rcases Nat.lt_trichotomy j k with h | rfl | h
    · simp only [if_pos h, if_pos (Nat.lt_succ_of_lt h), if_neg (Nat.ne_of_gt h), Option.map_eq_map, Option.map_id']
    · simp only [if_neg (Nat.lt_irrefl _), if_pos (Nat.lt_succ_self _), if_true, Option.map_eq_map]
    · simp only [if_neg (Nat.lt_asymm h), if_neg (Nat.not_lt.mpr (Nat.succ_le_of_lt h)), if_neg (Nat.ne_of_lt h),
        Option.map_eq_map, Option.map_id']

theorem assignCol_eq_specBlock (A B : List (List Rat)) (i : Nat) :
    assignCol A i (colOf B i) = specBlock A B i := List.zipWith_map_right

theorem replC_eq (A B : List (List Rat)) (d : Nat) :
    replC A B d = (List.range d).map (specBlock A B) := by
  apply List.ext_getElem?
  intro i
  rw [replC, getElem?_foldl_modify_range, List.getElem?_replicate, List.getElem?_map]
  split
  · rw [List.getElem?_range ‹_›, Option.map_some, assignCol_eq_specBlock]; rfl
  · rw [List.getElem?_eq_none (by rw [List.length_range]; exact Nat.le_of_not_lt ‹_›)]; rfl

theorem specBlock_length (A B : List (List Rat)) (i : Nat) (h : A.length = B.length) :
    (specBlock A B i).length = A.length := by
  rw [specBlock, List.length_zipWith, ← h, Nat.min_self]

theorem getElem?_specBlock (A B : List (List Rat)) (i a : Nat) :
    (specBlock A B i)[a]? = (A[a]?).bind fun ra => (B[a]?).map fun rb => ra.set i (rb.getD i 0) := by
  rw [specBlock, List.getElem?_zipWith']
  cases A[a]? <;> rfl

theorem pyIdx_nat (len k : Nat) : pyIdx len (k : Int) = min k len :=
  if_neg (Int.not_lt.mpr (Int.natCast_nonneg k))

theorem slice_nat (xs : List α) (lo hi : Nat) :
    slice xs (lo : Int) (hi : Int) = (xs.take hi).drop lo := by
  unfold slice
  rw [pyIdx_nat, pyIdx_nat, ← List.take_eq_take_min]
  rcases Nat.le_total lo xs.length with h | h
  · rw [Nat.min_eq_left h]
  · rw [Nat.min_eq_right h, List.drop_of_length_le (List.length_take_le' ..),
      List.drop_of_length_le ((List.length_take_le' ..).trans h)]

theorem map_slice (f : α → β) (xs : List α) (lo hi : Int) :
    slice (xs.map f) lo hi = (slice xs lo hi).map f := by
  rw [slice, slice, List.length_map, List.map_drop, List.map_take]

theorem sumQ_zipWith_map (f : Rat → Rat) (g g' : Rat → Rat → Rat) (k : Rat)
    (h : ∀ x y, g' (f x) (f y) = k * g x y) (a c : List Rat) :
    sumQ (List.zipWith g' (a.map f) (c.map f)) = k * sumQ (List.zipWith g a c) := by
  rw [List.zipWith_map, zipWith_eq_map_zip, zipWith_eq_map_zip g, ← sumQ_map_mul_left]
  simp only [h]

theorem sumQ_zipWith_add (f g : Rat → Rat) (a b : List Rat) (h : a.length = b.length) :
    sumQ (List.zipWith (fun x y => f x + g y) a b) = sumQ (a.map f) + sumQ (b.map g) := by
  rw [zipWith_eq_map_zip, sumQ_map_add, map_zip_fst f a b (Nat.le_of_eq h), map_zip_snd g a b (Nat.le_of_eq h.symm)]

theorem sq_self_nonneg (x : Rat) : 0 ≤ sq x := mul_self_nonneg x

theorem sumSqDiff_affine (a b : Rat) (ya yc : List Rat) :
    sumSqDiff (ya.map fun v => a * v + b) (yc.map fun v => a * v + b) = (a * a) * sumSqDiff ya yc :=
  sumQ_zipWith_map _ _ _ _ (fun x y => by unfold sq; ring) ya yc

theorem sumProd_scale (a : Rat) (ya yc : List Rat) :
    sumProd (ya.map fun v => a * v) (yc.map fun v => a * v) = (a * a) * sumProd ya yc :=
  sumQ_zipWith_map _ _ _ _ (fun x y => by ring) ya yc

theorem sumSqDiff_nonneg (a c : List Rat) : 0 ≤ sumSqDiff a c := by
  rw [sumSqDiff, zipWith_eq_map_zip]
  exact sumQ_map_nonneg _ _ fun _ _ => sq_self_nonneg _

theorem sumSqDiff_self (a : List Rat) : sumSqDiff a a = 0 := by
  rw [sumSqDiff, List.zipWith_self]
  exact sumQ_map_eq_zero a _ fun x _ => by rw [sub_self, sq, mul_zero]

theorem varQ_affine (a b : Rat) (ya : List Rat) :
    varQ (ya.map fun v => a * v + b) = (a * a) * varQ ya := by
  unfold varQ
  match ya with
  | [] => exact (zero_div _).trans (by rw [List.map_nil, sumQ_nil, zero_div, mul_zero])
  | x :: l =>
    rw [meanQ_affine a b _ (List.cons_ne_nil x l), List.map_map, List.length_map, ← mul_div_assoc,
      ← sumQ_map_mul_left]
    congr 3
    funext v; simp only [Function.comp, sq]; ring

theorem varQ_scale (a : Rat) (ya : List Rat) : varQ (ya.map fun v => a * v) = (a * a) * varQ ya := by
  have h := varQ_affine a 0 ya
  simp only [add_zero] at h
  exact h

theorem varQ_nonneg (ya : List Rat) (h : 2 ≤ ya.length) : 0 ≤ varQ ya :=
  div_nonneg (sumQ_map_nonneg ya _ fun _ _ => sq_self_nonneg _)
    (sub_nonneg.mpr (Nat.one_le_cast.mpr (Nat.le_of_succ_le h)))

theorem qdiv_ne (a b : Rat) (h : b ≠ 0) : qdiv a b = some (a / b) := if_neg h
theorem qdiv_zero (a : Rat) : qdiv a 0 = none := if_pos rfl

theorem qdiv_some {a b r : Rat} (h : qdiv a b = some r) : b ≠ 0 ∧ r = a / b := by
  unfold qdiv at h
  split at h
  · cases h
  · exact ⟨‹_›, (Option.some.inj h).symm⟩

theorem qdiv_scale (k a b : Rat) (hk : k ≠ 0) : qdiv (k * a) (k * b) = qdiv a b := by
  unfold qdiv
  rw [mul_div_mul_left a b hk]
  simp only [mul_eq_zero, hk, false_or]

theorem qdiv_sub_self (x v : Rat) : qdiv (v - x) v = (qdiv x v).map (1 - ·) := by
  unfold qdiv
  split
  · rfl
  · rw [Option.map_some, sub_div, div_self ‹_›]

theorem cast_sub_one_ne_zero {n : Nat} (h : 2 ≤ n) : (n : Rat) - 1 ≠ 0 :=
  sub_ne_zero.mpr (Nat.cast_ne_one.mpr (Nat.ne_of_gt h))

theorem meanO_eq (xs : List Rat) : meanO xs = if xs = [] then none else some (meanQ xs) := by
  unfold meanO meanQ qdiv
  simp only [Nat.cast_eq_zero, List.length_eq_zero_iff]

theorem sampleVar_eq (ya : List Rat) : sampleVar ya = if 2 ≤ ya.length then some (varQ ya) else none := by
  unfold sampleVar
  rw [meanO_eq]
  by_cases h2 : 2 ≤ ya.length
  · rw [if_neg (List.ne_nil_of_length_pos (Nat.zero_lt_of_lt h2)), if_pos h2]
    exact qdiv_ne _ _ (cast_sub_one_ne_zero h2)
  · rw [if_neg h2]
    match ya with
    | [] => rfl
    | [x] =>
      show qdiv _ (((1 : Nat) : Rat) - 1) = none
      rw [Nat.cast_one, sub_self, qdiv_zero]
    | x :: y :: l => exact absurd (Nat.le_add_left 2 l.length) h2

theorem jansenOne_eq (n : Nat) (ya yc : List Rat) :
    jansenOne n ya yc = if 2 ≤ ya.length then qdiv (sumSqDiff ya yc) (2 * n * varQ ya) else none := by
  unfold jansenOne
  rw [sampleVar_eq]
  split <;> rfl

theorem saltelliOne_eq (n : Nat) (ya yc : List Rat) :
    saltelliOne n ya yc = if 2 ≤ ya.length ∧ n ≠ 0 then
      (qdiv (1 / n * sumProd ya yc - sq (meanQ ya)) (varQ ya)).map (1 - ·) else none := by
  unfold saltelliOne
  rw [sampleVar_eq, meanO_eq]
  by_cases h2 : 2 ≤ ya.length
  · rw [if_neg (List.ne_nil_of_length_pos (Nat.zero_lt_of_lt h2)), if_pos h2]
    by_cases hn : n = 0
    · rw [if_neg (fun h : 2 ≤ ya.length ∧ n ≠ 0 => h.2 hn), hn, Nat.cast_zero, qdiv_zero]; rfl
    · rw [if_pos ⟨h2, hn⟩, qdiv_ne _ _ (Nat.cast_ne_zero.mpr hn)]
      exact bind_pure_comp (1 - ·) (qdiv _ _)
  · rw [if_neg h2, if_neg (fun h : 2 ≤ ya.length ∧ n ≠ 0 => h2 h.1)]
    split <;> rfl

/-- as coded, Homma and Saltelli are the same estimator, defined or not -/
theorem hommaOne_eq_saltelliOne (n : Nat) (ya yc : List Rat) : hommaOne n ya yc = saltelliOne n ya yc := by
  unfold hommaOne saltelliOne
  refine Option.bind_congr fun mu _ => Option.bind_congr fun var _ => Option.bind_congr fun inv _ => ?_
  rw [sub_add, qdiv_sub_self]
  exact (bind_pure_comp (1 - ·) (qdiv _ _)).symm

end Xp.Sobol
