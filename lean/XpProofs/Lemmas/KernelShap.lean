import XpModel.Lime
import XpProofs.Lemmas.Index
import Mathlib.Algebra.Order.BigOperators.Ring.Finset
import Mathlib.Data.Nat.Choose.Basic
import Mathlib.Algebra.Order.Field.Rat
import Mathlib.Tactic.Ring

/-! KernelShap on the model. Top-k thresholding: in a strictly decreasing list exactly `k` entries exceed the
    one of rank `k`, and counting is invariant under the argsort permutation. Size distribution: the generated
    quotient is `probSpec` = Shapley kernel × number of coalitions. Exactness: regrouped by segment, an additive
    score of the masked input is linear in the coalition, so weighted least squares recovers its coefficients. -/
open Finset
namespace Xp.Lime

theorem countP_gt_rank (L : List ℚ) (h : L.Pairwise (· > ·)) (k : ℕ) (hk : k < L.length) :
    L.countP (L[k] < ·) = k := by
  induction L generalizing k with
  | nil => exact absurd hk (Nat.not_lt_zero k)
  | cons a L ih =>
    rw [List.pairwise_cons] at h
    cases k with
    | zero =>
      refine List.countP_eq_zero.mpr fun b hb => ?_
      rcases List.mem_cons.mp hb with rfl | hb
      · simp
      · simpa using (h.1 b hb).le
    | succ k =>
      have hk' : k < L.length := Nat.lt_of_succ_lt_succ hk
      rw [List.getElem_cons_succ, List.countP_cons_of_pos (by simpa using h.1 _ (List.getElem_mem hk')),
        ih h.2 k hk']

theorem countOnes_threshold (vals : List ℚ) (thr : ℚ) :
    countOnes (vals.map fun v => if thr < v then (1 : ℚ) else 0) = vals.countP (thr < ·) := by
  rw [countOnes, ← List.countP_eq_length_filter, List.countP_map]
  refine List.countP_congr fun v _ => ?_
  by_cases h : thr < v <;> simp [h]

theorem argsort_perm (vals : List ℚ) :
    ((argsortDesc vals).map fun i => vals.getD i 0).Perm vals := by
  have h := (List.mergeSort_perm (List.range vals.length)
    (fun i j => decide (vals.getD j 0 ≤ vals.getD i 0))).map (fun i => vals.getD i 0)
  rwa [range_map_getD vals 0] at h

theorem argsort_sorted (vals : List ℚ) :
    ((argsortDesc vals).map fun i => vals.getD i 0).Pairwise (· ≥ ·) := by
  rw [List.pairwise_map]
  refine (List.pairwise_mergeSort (le := fun i j => decide (vals.getD j 0 ≤ vals.getD i 0))
    (fun a b c h1 h2 => ?_) (fun a b => ?_) (List.range vals.length)).imp of_decide_eq_true
  · exact decide_eq_true ((of_decide_eq_true h2).trans (of_decide_eq_true h1))
  · simpa using le_total (vals.getD b 0) (vals.getD a 0)

theorem kshapSample_count (vals : List ℚ) (hnd : vals.Nodup) (k : ℕ) (hk : k < vals.length) :
    countOnes (kshapSample vals k) = k := by
  have hperm := argsort_perm vals
  have hk' : k < (argsortDesc vals).length := by
    rw [← List.length_map (fun i => vals.getD i 0), hperm.length_eq]; exact hk
  have hstrict : ((argsortDesc vals).map fun i => vals.getD i 0).Pairwise (· > ·) :=
    ((argsort_sorted vals).and (hperm.nodup_iff.mpr hnd)).imp fun h => lt_of_le_of_ne' h.1 h.2
  have h := countP_gt_rank _ hstrict k (by rwa [List.length_map])
  rw [List.getElem_map, hperm.countP_eq] at h
  rw [kshapSample, countOnes_threshold, List.getD_eq_getElem _ 0 hk']
  exact h

/-- the Shapley kernel `(F−1) / (C(F,k) · k · (F−k))` -/
def shapleyKernel (F k : ℕ) : ℚ := ((F : ℚ) - 1) / ((Nat.choose F k : ℚ) * (k : ℚ) * ((F : ℚ) - (k : ℚ)))

theorem shapleyKernel_mul_choose (F k : ℕ) (hkF : k ≤ F) :
    shapleyKernel F k * (Nat.choose F k : ℚ) = ((F : ℚ) - 1) / ((k : ℚ) * ((F : ℚ) - (k : ℚ))) := by
  have hc : (Nat.choose F k : ℚ) ≠ 0 := Nat.cast_ne_zero.mpr (Nat.choose_pos hkF).ne'
  rw [shapleyKernel, mul_assoc, div_mul_eq_mul_div, mul_comm, mul_div_mul_left _ _ hc]

theorem kshapProbs_eq_spec (F : ℕ) (hF : 1 ≤ F) : kshapProbs F = (List.range F).map (probSpec F) := by
  obtain ⟨n, rfl⟩ := Nat.exists_eq_add_of_le' hF
  rw [List.range_succ_eq_map, List.map_cons, List.map_map]
  refine congrArg (List.cons 0) (List.map_congr_left fun i _ => ?_)
  simp only [Function.comp, probSpec, if_neg (Nat.succ_ne_zero i), Gen.kshapProbNum, Gen.kshapProbDen,
    Int.ofNat_eq_natCast, Int.cast_sub, Int.cast_mul, Int.cast_natCast, Int.cast_one]

theorem sum_seg_mul {P F : ℕ} {seg : ℕ → ℕ} (hseg : ∀ i ∈ range P, seg i < F) (a g : ℕ → ℚ) :
    ∑ j ∈ range F, (∑ i ∈ range P, if seg i = j then a i else 0) * g j
      = ∑ i ∈ range P, a i * g (seg i) := by
  simp only [sum_mul, ite_mul, zero_mul]
  rw [sum_comm]
  exact sum_congr rfl fun i hi => by rw [sum_ite_eq, if_pos (mem_range.mpr (hseg i hi))]

theorem sum_seg {P F : ℕ} {seg : ℕ → ℕ} (hseg : ∀ i ∈ range P, seg i < F) (a : ℕ → ℚ) :
    ∑ j ∈ range F, ∑ i ∈ range P, (if seg i = j then a i else 0) = ∑ i ∈ range P, a i := by
  simpa only [mul_one] using sum_seg_mul hseg a fun _ => 1

/-- coefficient vector `(Shapley values | score(ref))` over the augmented design `(S | 1)` -/
def addCoef (P F : ℕ) (seg : ℕ → ℕ) (wt x ref : ℕ → ℚ) (c0 : ℚ) (j : ℕ) : ℚ :=
  if j < F then ∑ i ∈ range P, if seg i = j then wt i * (x i - ref i) else 0
  else (∑ i ∈ range P, wt i * ref i) + c0

theorem addCoef_lt {P F : ℕ} {seg : ℕ → ℕ} {wt x ref : ℕ → ℚ} {c0 : ℚ} {j : ℕ} (h : j < F) :
    addCoef P F seg wt x ref c0 j = ∑ i ∈ range P, if seg i = j then wt i * (x i - ref i) else 0 :=
  if_pos h

theorem additive_linear (P F : ℕ) (seg : ℕ → ℕ) (hseg : ∀ i ∈ range P, seg i < F)
    (wt x ref : ℕ → ℚ) (c0 : ℚ) (S : ℕ → ℚ) :
    (∑ i ∈ range P, wt i * (x i * S (seg i) + (1 - S (seg i)) * ref i)) + c0
      = ∑ j ∈ range (F + 1), addCoef P F seg wt x ref c0 j * (if j < F then S j else 1) := by
  have hj : ∀ j ∈ range F, addCoef P F seg wt x ref c0 j * (if j < F then S j else 1)
      = (∑ i ∈ range P, if seg i = j then wt i * (x i - ref i) else 0) * S j :=
    fun j hj => by rw [addCoef_lt (mem_range.mp hj), if_pos (mem_range.mp hj)]
  -- columns `j < F` regroup by segment; the last column carries the intercept `score(ref)`
  rw [sum_range_succ, sum_congr rfl hj, sum_seg_mul hseg, addCoef, if_neg (lt_irrefl F),
    if_neg (lt_irrefl F), mul_one, ← add_assoc, ← sum_add_distrib]
  exact congrArg (· + c0) (sum_congr rfl fun i _ => by ring)

end Xp.Lime
