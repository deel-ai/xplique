/-
  Lemmas for the filtered searches: a masked key behaves like the `+inf` padding of `smallestKeys`.
-/
import XpModel.FilterKnn
import XpProofs.Lemmas.TopK
import XpProofs.Lemmas.KnnIndex

namespace Xp.TopK
variable {γ : Type}

theorem maskKey_true (d : Dist) : maskKey true d = d := rfl
theorem maskKey_false (d : Dist) : maskKey false d = none := rfl

theorem maskKey_none (m : Bool) : maskKey m none = none := by cases m <;> rfl

theorem maskKey_isSome (m : Bool) (d : Dist) : (maskKey m d).isSome = (m && d.isSome) := by
  cases m <;> rfl

theorem maskKey_ne_none {m : Bool} {d : Dist} (h : maskKey m d ≠ none) : m = true ∧ maskKey m d = d := by
  cases m
  · exact absurd rfl h
  · exact ⟨rfl, rfl⟩

theorem smallestKeys_masked (k : Nat) (key : γ → Dist) (adm : γ → Bool) (cases : List γ) :
    smallestKeys k (cases.map fun c => maskKey (adm c) (key c))
      = smallestKeys k ((cases.filter adm).map key) := by
  have hadm : (cases.filter adm).map (fun c => maskKey (adm c) (key c)) = (cases.filter adm).map key :=
    List.map_congr_left fun c hc => by rw [(List.mem_filter.mp hc).2, maskKey_true]
  have hnot : (cases.filter fun c => !adm c).map (fun c => maskKey (adm c) (key c))
      = List.replicate (cases.filter fun c => !adm c).length none := by
    rw [← List.map_const']
    exact List.map_congr_left fun c hc => by
      rw [(Bool.not_eq_true' _).mp (List.mem_filter.mp hc).2, maskKey_false]
  rw [← smallestKeys_append_none k (cases.filter fun c => !adm c).length ((cases.filter adm).map key),
    ← hnot, ← hadm, ← List.map_append]
  exact smallestKeys_perm k ((List.filter_append_perm adm cases).map _).symm

end Xp.TopK
