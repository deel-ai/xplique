import XpModel.ProtoSel
import XpProofs.Lemmas.Vec

/-! The triangular traversal of `__set_kernel_matrix_column_means_and_diagonal`.  Everything is said along the split
    `bt = pre ++ colB :: post` of the dataset at the current column batch: the inner loop skips the rows of `pre`, meets
    the diagonal block, then the rows of `post`; what it knows of the skipped blocks is held in `row_sums`. -/
namespace Xp.ProtoSel
variable {α σ : Type}

/-- invariant rule for `for i, x in enumerate(l)` loops; the invariant speaks of the elements met so far and of those
    still to come -/
theorem foldl_zipIdx_inv (P : List α → List α → σ → Prop) (f : σ → α × Nat → σ) (l : List α)
    (hstep : ∀ pre a post s, l = pre ++ a :: post → P pre (a :: post) s → P (pre ++ [a]) post (f s (a, pre.length)))
    (s0 : σ) (h0 : P [] l s0) : P l [] (l.zipIdx.foldl f s0) := by
  suffices h : ∀ (post pre : List α) (s : σ), l = pre ++ post → P pre post s →
      P l [] ((post.zipIdx pre.length).foldl f s) from h l [] s0 rfl h0
  intro post
  induction post with
  | nil =>
    intro pre s hl hP
    rw [hl, List.append_nil]
    exact hP
  | cons a post ih =>
    intro pre s hl hP
    have := ih (pre ++ [a]) (f s (a, pre.length)) (by rw [hl, List.append_assoc]; rfl) (hstep pre a post s hl hP)
    rw [List.length_append] at this
    exact this

section tri
variable (K : Kern)

def colPart (rows : List Nat) (j : Nat) : Rat := sumQ (rows.map fun i => K i j)
def rowPart (cols : List Nat) (i : Nat) : Rat := sumQ (cols.map fun j => K i j)

theorem colSumBlock_eq (rows cols : List Nat) : colSumBlock K rows cols = cols.map (colPart K rows) := rfl
theorem rowSumBlock_eq (rows cols : List Nat) : rowSumBlock K rows cols = rows.map (rowPart K cols) := rfl

theorem colPart_append (r1 r2 : List Nat) (j : Nat) :
    colPart K (r1 ++ r2) j = colPart K r1 j + colPart K r2 j := by
  unfold colPart
  rw [List.map_append, sumQ_append]
/-- a row sum is a column sum of the transposed kernel -/
theorem rowPart_append (c1 c2 : List Nat) (i : Nat) :
    rowPart K (c1 ++ c2) i = rowPart K c1 i + rowPart K c2 i :=
  colPart_append (fun i j => K j i) c1 c2 i
theorem colPart_nil (j : Nat) : colPart K [] j = 0 := rfl
theorem rowPart_nil (i : Nat) : rowPart K [] i = 0 := rfl

theorem rowPart_symm (hsym : ∀ i j, K i j = K j i) (cols : List Nat) (i : Nat) :
    rowPart K cols i = colPart K cols i :=
  congrArg sumQ (List.map_congr_left fun j _ => hsym i j)

theorem diagBlock_self (l : List Nat) : diagBlock K l l = l.map fun j => K j j := List.zipWith_self

/-- the entries of the python list `row_sums` for the batches `bs`: every case of a batch with its kernel row summed
    over the columns `X` of the column batches met so far -/
def rowSums (X : List Nat) (bs : List (List Nat)) : List (List Rat) := bs.map fun B => B.map (rowPart K X)

theorem rowSums_nil (X : List Nat) : rowSums K X [] = [] := rfl
theorem rowSums_cons (X B : List Nat) (bs : List (List Nat)) :
    rowSums K X (B :: bs) = B.map (rowPart K X) :: rowSums K X bs := rfl

/-- row batches above the diagonal: `continue` -/
theorem foldl_innerStep_above (ci : Nat) (colB : List Nat) (l : List (List Nat × Nat)) (hl : ∀ x ∈ l, x.2 < ci)
    (st : Inner) : l.foldl (innerStep K ci colB) st = st := by
  induction l with
  | nil => rfl
  | cons x l ih =>
    rw [List.foldl_cons, show innerStep K ci colB st x = st from if_pos (hl x List.mem_cons_self)]
    exact ih fun y hy => hl y (List.mem_cons_of_mem x hy)

/-- the diagonal block: the stored row sums of this batch join its column sums -/
theorem innerStep_diag (ci : Nat) (colB B : List Nat) (st : Inner) :
    innerStep K ci colB st (B, ci)
      = { cs := vadd (vadd st.cs (colSumBlock K B colB)) (st.rs.getD ci []), rs := st.rs,
          dg := st.dg ++ [diagBlock K B colB] } := by
  simp only [innerStep, gt_iff_lt, Nat.lt_irrefl, ↓reduceIte]

/-- one row batch strictly below the diagonal, the column sums so far being given per column case -/
theorem innerStep_below (ci : Nat) (colB : List Nat) (f : Nat → Rat) (rs dg : List (List Rat)) (B : List Nat)
    (k : Nat) (hk : ci < k) :
    innerStep K ci colB { cs := colB.map f, rs := rs, dg := dg } (B, k)
      = { cs := colB.map fun j => f j + colPart K B j,
          rs := if ci = 0 then rs ++ [B.map (rowPart K colB)]
                else rs.set k (vadd (rs.getD k []) (B.map (rowPart K colB))),
          dg := dg } := by
  unfold innerStep
  simp only
  rw [if_neg (Nat.lt_asymm hk), if_neg (Nat.ne_of_lt hk), colSumBlock_eq, vadd_map, rowSumBlock_eq]

/-- the row batches `post` strictly below the diagonal: each adds its block to the column sums, and its stored row sums
    (over the columns `X` of the earlier passes) take in the block of this column batch.  In the first pass (`ci = 0`)
    nothing is stored yet for them and the python list is built by `append`. -/
theorem foldl_innerStep_below (ci : Nat) (colB X : List Nat) (hX : ci = 0 → X = []) (dg : List (List Rat))
    (post : List (List Nat)) :
    ∀ (k : Nat) (_ : ci < k) (f : Nat → Rat) (h : List (List Rat)) (_ : h.length = k),
    (post.zipIdx k).foldl (innerStep K ci colB)
        { cs := colB.map f, rs := h ++ (if ci = 0 then [] else rowSums K X post), dg := dg }
      = { cs := colB.map fun j => f j + colPart K post.flatten j,
          rs := h ++ rowSums K (X ++ colB) post, dg := dg } := by
  induction post with
  | nil =>
    intro k _ f h _
    simp only [List.zipIdx_nil, List.foldl_nil, List.flatten_nil, colPart_nil, add_zero, rowSums_nil, ite_self]
  | cons B post ih =>
    intro k hk f h hh
    have hrs : (if ci = 0 then (h ++ if ci = 0 then [] else rowSums K X (B :: post)) ++ [B.map (rowPart K colB)]
          else (h ++ if ci = 0 then [] else rowSums K X (B :: post)).set k
            (vadd ((h ++ if ci = 0 then [] else rowSums K X (B :: post)).getD k []) (B.map (rowPart K colB))))
        = (h ++ [B.map (rowPart K (X ++ colB))]) ++ (if ci = 0 then [] else rowSums K X post) := by
      by_cases h0 : ci = 0
      · -- first pass: nothing stored yet for `B`, its row sums over `colB` are appended
        rw [if_pos h0, if_pos h0, if_pos h0, hX h0, List.append_nil, List.append_nil, List.nil_append]
      · -- later passes: entry `k` of `row_sums` is the one of batch `B`; it is read, the block added, and written back
        have hget : (h ++ rowSums K X (B :: post)).getD k [] = B.map (rowPart K X) := by
          rw [List.getD_append_right _ _ _ _ (Nat.le_of_eq hh), hh, Nat.sub_self, rowSums_cons, List.getD_cons_zero]
        have hset : ∀ v, (h ++ rowSums K X (B :: post)).set k v = (h ++ [v]) ++ rowSums K X post := fun v => by
          rw [List.set_append_right k _ (Nat.le_of_eq hh), hh, Nat.sub_self, rowSums_cons, List.set_cons_zero,
            List.append_assoc, List.singleton_append]
        rw [if_neg h0, if_neg h0, if_neg h0, hget, hset, vadd_map]
        simp only [← rowPart_append]
    rw [List.zipIdx_cons, List.foldl_cons, innerStep_below K ci colB f _ dg B k hk, hrs,
      ih (k + 1) (Nat.lt_succ_of_lt hk) _ _ (by rw [List.length_append, hh]; rfl)]
    simp only [List.flatten_cons, colPart_append, add_assoc, rowSums_cons, List.append_assoc, List.singleton_append]

/-- the whole inner loop for the column batch `colB` of `bt = pre ++ colB :: post`, started with the row sums of `colB` and
    of the later batches over the columns of `pre`: it returns the full kernel column of every case of `colB` (the rows of
    `pre` through the stored row sums and symmetry, the diagonal block, the rows of `post`) and has added the block of
    `colB` to the row sums of the later batches -/
theorem inner_loop (hsym : ∀ i j, K i j = K j i) (pre : List (List Nat)) (colB : List Nat) (post : List (List Nat))
    (h dg : List (List Rat)) (hh : h.length = pre.length) :
    (pre ++ colB :: post).zipIdx.foldl (innerStep K pre.length colB)
        { cs := vzero colB.length,
          rs := h ++ colB.map (rowPart K pre.flatten) :: (if pre.length = 0 then [] else rowSums K pre.flatten post),
          dg := dg }
      = { cs := colB.map (colPart K (pre ++ colB :: post).flatten),
          rs := h ++ colB.map (rowPart K pre.flatten) :: rowSums K (pre.flatten ++ colB) post,
          dg := dg ++ [diagBlock K colB colB] } := by
  have habove : ∀ x ∈ pre.zipIdx, x.2 < pre.length := fun x hx => by
    simpa using List.snd_lt_of_mem_zipIdx hx
  have hcol : ∀ j, 0 + colPart K colB j + rowPart K pre.flatten j + colPart K post.flatten j
      = colPart K (pre ++ colB :: post).flatten j := fun j => by
    rw [List.flatten_append, List.flatten_cons, colPart_append, colPart_append, rowPart_symm K hsym]
    ring
  have hbelow := foldl_innerStep_below K pre.length colB pre.flatten
    (fun e => by rw [List.length_eq_zero_iff.mp e]; rfl) (dg ++ [diagBlock K colB colB]) post (pre.length + 1)
    (Nat.lt_succ_self _) (fun j => 0 + colPart K colB j + rowPart K pre.flatten j)
    (h ++ [colB.map (rowPart K pre.flatten)]) (by rw [List.length_append, hh]; rfl)
  rw [List.append_assoc, List.singleton_append] at hbelow
  rw [List.zipIdx_append, List.zipIdx_cons, Nat.zero_add, List.foldl_append, foldl_innerStep_above K _ _ _ habove,
    List.foldl_cons, innerStep_diag, colSumBlock_eq,
    show vzero colB.length = colB.map fun _ => (0 : Rat) from List.map_const'.symm, vadd_map,
    List.getD_append_right _ _ _ _ (Nat.le_of_eq hh), hh, Nat.sub_self, List.getD_cons_zero, vadd_map, hbelow]
  simp only [hcol, List.append_assoc, List.singleton_append]

/-- the outer loop after the column batches `pre`, the batches `post` still to come: the full column sums of the cases of
    `pre`, and in `row_sums`, behind one entry per batch of `pre` (never read again), the row sums of every batch of `post`
    over the columns met so far.  Before the first pass that table is only the placeholder of the first batch. -/
def OuterInv (bt pre post : List (List Nat)) (st : Outer) : Prop :=
  st.colSums = pre.map (fun colB => colB.map (colPart K bt.flatten)) ∧
  st.diag = pre.map (fun colB => colB.map fun j => K j j) ∧
  st.nb = pre.flatten.length ∧
  ∃ h, h.length = pre.length ∧
    st.rs = h ++ rowSums K pre.flatten (if pre.length = 0 then post.take 1 else post)

theorem outer_step (hsym : ∀ i j, K i j = K j i) (bt pre : List (List Nat)) (colB : List Nat)
    (post : List (List Nat)) (hbt : bt = pre ++ colB :: post) (st : Outer)
    (hinv : OuterInv K bt pre (colB :: post) st) :
    OuterInv K bt (pre ++ [colB]) post (outerStep K bt st (colB, pre.length)) := by
  obtain ⟨hcs, hdg, hnb, h, hh, hrs⟩ := hinv
  have hrs' : st.rs = h ++ colB.map (rowPart K pre.flatten)
      :: (if pre.length = 0 then [] else rowSums K pre.flatten post) := by
    rw [hrs]
    split <;> rfl
  unfold outerStep
  simp only
  rw [hrs', hbt, inner_loop K hsym pre colB post h st.diag hh, ← hbt]
  refine ⟨?_, ?_, ?_, h ++ [colB.map (rowPart K pre.flatten)], ?_, ?_⟩
  · rw [hcs, List.map_append]; rfl
  · rw [hdg, List.map_append, diagBlock_self]; rfl
  · simp only [hnb, List.flatten_append, List.flatten_cons, List.flatten_nil, List.append_nil, List.length_append]
  · rw [List.length_append, List.length_append, hh]; rfl
  · rw [List.length_append, List.length_singleton, if_neg (Nat.add_one_ne_zero _)]
    simp only [List.flatten_append, List.flatten_cons, List.flatten_nil, List.append_nil, List.append_assoc,
      List.singleton_append]

theorem triangular_spec (hsym : ∀ i j, K i j = K j i) (bt : List (List Nat)) :
    (triangular K bt).colSums = bt.map (fun colB => colB.map (colPart K bt.flatten)) ∧
    (triangular K bt).diag = bt.map (fun colB => colB.map fun j => K j j) ∧
    (triangular K bt).nb = bt.flatten.length := by
  cases bt with
  | nil => exact ⟨rfl, rfl, rfl⟩
  | cons B0 bt =>
    obtain ⟨h1, h2, h3, _⟩ := foldl_zipIdx_inv (OuterInv K (B0 :: bt)) (outerStep K (B0 :: bt)) (B0 :: bt)
      (fun pre a post st hbt hinv => outer_step K hsym _ pre a post hbt st hinv)
      { colSums := [], diag := [], rs := [vzero B0.length], nb := 0 }
      ⟨rfl, rfl, rfl, [], rfl, congrArg (· :: []) List.map_const'.symm⟩
    exact ⟨h1, h2, h3⟩

end tri
end Xp.ProtoSel
