/-
  Lemmas for C20: `_batch_inference` hands the model the chunks of `batches`; sums and means of possibly
  undefined numbers pass on what addition and division by a count preserve.
-/
import XpModel.Craft
import XpProofs.Lemmas.Sobol
import XpProofs.Lemmas.Batching

namespace Xp.Craft
open Xp.Sobol
variable {α β : Type}

/-- chunk `i` of `_batch_inference`, `dataset[i*bs : i*bs + bs]` (about the GENERATED bounds) -/
theorem craftChunk_nat (ds : List α) (bs i : Nat) :
    slice ds (Gen.craftBatchLo (Gen.craftStart (i : Int) (bs : Int)) (bs : Int))
      (Gen.craftBatchHi (Gen.craftStart (i : Int) (bs : Int)) (bs : Int)) = (ds.drop (i * bs)).take bs := by
  rw [Gen.craftBatchLo, Gen.craftBatchHi, Gen.craftStart, ← Int.natCast_mul, ← Int.natCast_add, slice_nat,
    List.drop_take, Nat.add_sub_cancel_left]

/-- `ceil(len / bs)` chunks, those of `batches` (about the GENERATED chunk arithmetic) -/
theorem batchInference_eq_batched (op : List α → List β) (bs : Nat) (hb : 0 < bs) (ds : List α) :
    batchInference op bs ds = batched op (some bs) ds := by
  unfold batchInference
  simp only [craftChunk_nat]
  rw [Gen.craftNbBatches, ceil_eq_length_batches bs hb, ← List.flatMap_map, range_map_batch bs hb, batched,
    List.flatMap_def]

theorem batchInference_eq_map (f : α → β) (bs : Nat) (hb : 0 < bs) (ds : List α) :
    batchInference (fun b => b.map f) bs ds = ds.map f := by
  rw [batchInference_eq_batched _ bs hb]
  exact batched_eq_map _ f (fun _ => rfl) _ (bsPos_some hb) ds

theorem sumO_induction {P : Rat → Prop} (h0 : P 0) (hadd : ∀ a b, P a → P b → P (a + b))
    {l : List (Option Rat)} {s : Rat} (h : sumO l = some s) (hP : ∀ v, some v ∈ l → P v) : P s := by
  induction l generalizing s with
  | nil => cases h; exact h0
  | cons x l ih =>
    cases x with
    | none => cases h
    | some v =>
      cases hs : sumO l with
      | none => rw [sumO, hs] at h; cases h
      | some t =>
        rw [sumO, hs] at h
        cases h
        exact hadd v t (hP v (List.mem_cons_self ..)) (ih hs fun w hw => hP w (List.mem_cons_of_mem _ hw))

theorem getD_none_eq_some {l : List (Option Rat)} {j : Nat} {v : Rat} (h : l.getD j none = some v) :
    l[j]? = some (some v) := by
  rw [List.getD_eq_getElem?_getD] at h
  cases hl : l[j]? with
  | none => rw [hl] at h; cases h
  | some o => rw [hl] at h; exact congrArg some h

theorem colMeanO_induction {P : Rat → Prop} (h0 : P 0) (hadd : ∀ a b, P a → P b → P (a + b))
    (hdiv : ∀ a (k : Nat), P a → P (a / k)) {r : Nat} {rows : List (List (Option Rat))} {j : Nat} {s : Rat}
    (h : (colMeanO r rows)[j]? = some (some s)) (hP : ∀ row ∈ rows, ∀ v, row[j]? = some (some v) → P v) :
    P s := by
  unfold colMeanO at h
  by_cases hj : j < r
  · rw [List.getElem?_map, List.getElem?_range hj, Option.map_some] at h
    have h := Option.some.inj h
    split at h
    · cases h
    · cases ht : sumO (rows.map fun row => row.getD j none) with
      | none => rw [ht] at h; cases h
      | some t =>
        rw [ht] at h
        cases h
        refine hdiv t _ (sumO_induction h0 hadd ht fun v hv => ?_)
        obtain ⟨row, hrow, hv⟩ := List.mem_map.mp hv
        exact hP row hrow v (getD_none_eq_some hv)
  · rw [List.getElem?_eq_none (by rw [List.length_map, List.length_range]; exact Nat.le_of_not_lt hj)] at h
    cases h

end Xp.Craft
