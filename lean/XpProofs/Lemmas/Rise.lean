/-
  Lemmas for C09 (RISE): the (numerator, denominator) fold over any chunking, bilinear weights in [0, 1], and the
  linearity of the upsample in the grid.
-/
import XpModel.Rise
import XpProofs.Lemmas.Vec
import XpProofs.Lemmas.Index
import Mathlib.Algebra.Order.Field.Rat
import Mathlib.Algebra.Order.Ring.Cast

namespace Xp.Rise

theorem foldl_accStep (nfeat : Nat) (L : List (List (List Rat × Rat))) (st : List Rat × List Rat) :
    L.foldl (accStep nfeat) st =
      (L.foldl (fun a ch => vadd a (chunkNum nfeat ch)) st.1,
       L.foldl (fun a ch => vadd a (chunkDen nfeat ch)) st.2) := by
  induction L generalizing st with
  | nil => rfl
  | cons ch L ih => exact ih (accStep nfeat st ch)

theorem finish_foldl_chunks (nfeat : Nat) (eps : Rat) (L : List (List (List Rat × Rat))) :
    finish eps (L.foldl (accStep nfeat) (vzero nfeat, vzero nfeat)) = specPairs nfeat eps L.flatten := by
  rw [foldl_accStep]
  unfold finish chunkNum chunkDen
  rw [foldl_vadd_vzero nfeat (fun p (ms : List Rat × Rat) => ms.2 * ms.1.getD p 0),
    foldl_vadd_vzero nfeat (fun p (ms : List Rat × Rat) => ms.1.getD p 0)]
  exact zipWith_map_map_self _ _ _ _

theorem frac_mem (out inn i : Nat) : 0 ≤ frac out inn i ∧ frac out inn i ≤ 1 := by
  unfold frac
  generalize 2 * out = d
  rcases Nat.eq_zero_or_pos d with rfl | h
  · rw [Nat.cast_zero (R := Rat), div_zero]
    exact ⟨le_rfl, zero_le_one⟩
  · have hd : (0 : Int) < d := Int.natCast_pos.mpr h
    refine ⟨div_nonneg (Int.cast_nonneg (Int.emod_nonneg _ hd.ne')) (Nat.cast_nonneg d),
      div_le_one_of_le₀ ?_ (Nat.cast_nonneg d)⟩
    exact (Int.cast_le.mpr (Int.emod_lt_of_pos _ hd).le).trans_eq (Int.cast_natCast d)

theorem lerp_convex (t a b : Rat) : lerp t a b = (1 - t) * a + t * b := by unfold lerp; ring

theorem lerp_mem {t a b lo hi : Rat} (ht : 0 ≤ t ∧ t ≤ 1) (ha : lo ≤ a ∧ a ≤ hi) (hb : lo ≤ b ∧ b ≤ hi) :
    lo ≤ lerp t a b ∧ lerp t a b ≤ hi := by
  have h1 : 0 ≤ 1 - t := sub_nonneg.mpr ht.2
  have e : ∀ c : Rat, (1 - t) * c + t * c = c := fun c => by ring
  rw [lerp_convex, ← e lo, ← e hi]
  exact ⟨add_le_add (mul_le_mul_of_nonneg_left ha.1 h1) (mul_le_mul_of_nonneg_left hb.1 ht.1),
    add_le_add (mul_le_mul_of_nonneg_left ha.2 h1) (mul_le_mul_of_nonneg_left hb.2 ht.1)⟩

theorem lerp_lerp (s t a b c d : Rat) :
    lerp s (lerp t a b) (lerp t c d)
      = (1 - s) * (1 - t) * a + (1 - s) * t * b + s * (1 - t) * c + s * t * d := by
  unfold lerp; ring

theorem wsum_lerp {γ : Type} (ws : List Rat) (gs : List γ) (t : Rat) (A B : γ → Rat) :
    sumQ (List.zipWith (fun w g => w * lerp t (A g) (B g)) ws gs)
      = lerp t (sumQ (List.zipWith (fun w g => w * A g) ws gs)) (sumQ (List.zipWith (fun w g => w * B g) ws gs)) := by
  simp only [zipWith_eq_map_zip, lerp]
  rw [mul_comm _ t, ← sumQ_map_sub, ← sumQ_map_mul_left, ← sumQ_map_add]
  exact congrArg sumQ (List.map_congr_left fun p _ => by ring)

/-- the upsample is linear in the grid: a weighted sum of upsampled grids is the upsample of the weighted sum -/
theorem up2_wsum (H' W' h w : Nat) (ws : List Rat) (gs : List (Nat → Nat → Rat)) (i j : Nat) :
    sumQ (List.zipWith (fun wt g => wt * up2 H' W' h w g i j) ws gs)
      = up2 H' W' h w (fun r c => sumQ (List.zipWith (fun wt g => wt * g r c) ws gs)) i j := by
  unfold up2
  rw [wsum_lerp, wsum_lerp, wsum_lerp]

end Xp.Rise
