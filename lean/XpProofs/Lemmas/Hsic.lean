/-
  Helper lemmas for the HSIC part of C08: tables and entry functions are read as `Matrix (Fin n) (Fin n) ℚ`
  (`toM`); two of them agree on `[0, n)²` when their matrices are equal, the score is a trace, and the
  non-negativity of `tr(H K H · H L H)` is proved for `K` a non-negative combination of outer products and `L`
  positive semi-definite.  At the end the index bookkeeping of `hsicImpl`'s two transposes (`getD_map_row`, `cell_roundtrip`).
-/
import XpModel.Hsic
import XpProofs.Lemmas.Vec
import XpProofs.Lemmas.FinsetSum
import Mathlib.LinearAlgebra.Matrix.Trace
import Mathlib.Algebra.Order.Field.Rat

namespace Xp.Hsic
open Matrix

theorem sumQ_range_fin (n : Nat) (f : Nat → Rat) : sumQ ((List.range n).map f) = ∑ i : Fin n, f i :=
  (sumQ_range n f).trans (Finset.sum_range f)

theorem rd_tab (n : Nat) (f : Nat → Nat → Rat) (j k : Nat) (hj : j < n) (hk : k < n) :
    rd (tab n f) j k = f j k := by
  rw [rd, tab, getD_range_map _ _ _ hj, getD_range_map _ _ _ hk]

def toM (n : Nat) (F : Nat → Nat → Rat) : Matrix (Fin n) (Fin n) ℚ := fun i j => F i j

/-- entry functions are compared through their `n × n` matrices: agreeing on `[0, n)²` is equality of `toM` -/
theorem toM_congr (n : Nat) (F G : Nat → Nat → Rat) (h : ∀ j k, j < n → k < n → F j k = G j k) :
    toM n F = toM n G :=
  funext fun i => funext fun j => h i j i.2 j.2

theorem toM_mmF (n : Nat) (A B : Nat → Nat → Rat) : toM n (mmF n A B) = toM n A * toM n B := by
  ext i j
  rw [Matrix.mul_apply]
  exact sumQ_range_fin n fun k => A i k * B k j

theorem toM_Hf_transpose (n : Nat) : (toM n (Hf n))ᵀ = toM n (Hf n) := by
  ext i j
  exact congrArg (· - 1 / (n : Rat)) (if_congr eq_comm rfl rfl)

theorem toM_rd_mm (n : Nat) (A B : List (List Rat)) : toM n (rd (mm n A B)) = toM n (rd A) * toM n (rd B) :=
  (toM_congr n _ _ fun j l hj hl => rd_tab n _ j l hj hl).trans (toM_mmF n (rd A) (rd B))

theorem toM_rd_centering (n : Nat) : toM n (rd (centering n)) = toM n (Hf n) :=
  toM_congr n _ _ fun j k hj hk => rd_tab n _ j k hj hk

theorem trace_toM_mul (n : Nat) (F G : Nat → Nat → Rat) :
    sumQ ((List.range n).map fun j => sumQ ((List.range n).map fun k => F j k * G k j))
      = (toM n F * toM n G).trace := by
  rw [sumQ_range_fin]
  refine Finset.sum_congr rfl fun j _ => ?_
  rw [sumQ_range_fin, Matrix.diag_apply, Matrix.mul_apply]
  rfl

theorem scoreFn_eq_trace (n : Nat) (K L : Nat → Nat → Rat) :
    scoreFn n K L =
      ((toM n (Hf n) * toM n K * toM n (Hf n)) * (toM n (Hf n) * toM n L * toM n (Hf n))).trace / (n : Rat) := by
  rw [← toM_mmF, ← toM_mmF, ← toM_mmF, ← toM_mmF, ← trace_toM_mul]
  rfl

theorem scoreFn_congr (n : Nat) (K K' L : Nat → Nat → Rat)
    (hK : ∀ j k, j < n → k < n → K j k = K' j k) : scoreFn n K L = scoreFn n K' L := by
  rw [scoreFn_eq_trace, scoreFn_eq_trace, toM_congr n K K' hK]

/-- the table computation (`einsum` order of the code) equals the entry-function formula -/
theorem scoreImpl_eq_scoreFn (n : Nat) (K L : List (List Rat)) :
    scoreImpl n K L = scoreFn n (rd K) (rd L) := by
  rw [scoreFn_eq_trace, scoreImpl, trace_toM_mul]
  simp only [toM_rd_mm, toM_rd_centering]

theorem trace_outer_nonneg {n : Nat} (H Lm : Matrix (Fin n) (Fin n) ℚ) (hH : Hᵀ = H)
    (hL : ∀ v : Fin n → ℚ, 0 ≤ v ⬝ᵥ Lm *ᵥ v) (u : Fin n → ℚ) :
    0 ≤ ((H * vecMulVec u u * H) * (H * Lm * H)).trace := by
  have hsym (x : Fin n → ℚ) : x ᵥ* H = H *ᵥ x := by rw [← vecMul_transpose, hH]
  have houter : H * vecMulVec u u * H = vecMulVec (H *ᵥ u) (H *ᵥ u) := by
    rw [mul_vecMulVec, vecMulVec_mul, hsym]
  -- the trace of an outer product `w wᵀ` times `M` is the quadratic form `wᵀ M w`
  have htrace : ((H * vecMulVec u u * H) * (H * Lm * H)).trace = (H *ᵥ u) ⬝ᵥ (H * Lm * H) *ᵥ (H *ᵥ u) := by
    rw [houter, vecMulVec_mul, trace_vecMulVec, dotProduct_comm, ← dotProduct_mulVec]
  -- and `wᵀ (H L H) w = (H w)ᵀ L (H w)`
  rw [htrace, ← mulVec_mulVec, ← mulVec_mulVec, dotProduct_mulVec, hsym]
  exact hL _

theorem trace_outer_sum_nonneg {n m : Nat} (H Lm : Matrix (Fin n) (Fin n) ℚ) (hH : Hᵀ = H)
    (hL : ∀ v : Fin n → ℚ, 0 ≤ v ⬝ᵥ Lm *ᵥ v) (c : Fin m → ℚ) (u : Fin m → Fin n → ℚ)
    (hc : ∀ w, 0 ≤ c w) :
    0 ≤ ((H * (∑ w, c w • vecMulVec (u w) (u w)) * H) * (H * Lm * H)).trace := by
  rw [Finset.mul_sum, Finset.sum_mul, Finset.sum_mul, trace_sum]
  apply Finset.sum_nonneg
  intro w _
  rw [Matrix.mul_smul, Matrix.smul_mul, Matrix.smul_mul, trace_smul]
  exact mul_nonneg (hc w) (trace_outer_nonneg H Lm hH hL (u w))

/-- `K` restricted to `n × n` is a non-negative combination of `m` outer products -/
def OuterSum (n : Nat) (K : Nat → Nat → Rat) : Prop :=
  ∃ (m : Nat) (c : Nat → Rat) (u : Nat → Nat → Rat), (∀ w, 0 ≤ c w) ∧
    ∀ j k, j < n → k < n → K j k = sumQ ((List.range m).map fun w => c w * u w j * u w k)

/-- positive semi-definiteness of the `n × n` matrix with entries `L j k` (quadratic form) -/
def PSD (n : Nat) (L : Nat → Nat → Rat) : Prop :=
  ∀ v : Nat → Rat, 0 ≤ sumQ ((List.range n).map fun j => sumQ ((List.range n).map fun k => v j * L j k * v k))

theorem PSD_toM (n : Nat) (L : Nat → Nat → Rat) (h : PSD n L) (v : Fin n → ℚ) :
    0 ≤ v ⬝ᵥ toM n L *ᵥ v := by
  have := h (fun i => if hi : i < n then v ⟨i, hi⟩ else 0)
  rw [sumQ_range_fin] at this
  refine this.trans_eq (Finset.sum_congr rfl fun j _ => ?_)
  rw [sumQ_range_fin, mulVec, dotProduct, Finset.mul_sum]
  refine Finset.sum_congr rfl fun k _ => ?_
  rw [dif_pos j.2, dif_pos k.2, mul_assoc]
  rfl

theorem scoreFn_nonneg (n : Nat) (K L : Nat → Nat → Rat) (hK : OuterSum n K) (hL : PSD n L) :
    0 ≤ scoreFn n K L := by
  rw [scoreFn_eq_trace]
  refine div_nonneg ?_ (Nat.cast_nonneg (α := ℚ) n)
  obtain ⟨m, c, u, hc, hK⟩ := hK
  have : toM n K = ∑ w : Fin m, (c w) • vecMulVec (fun i : Fin n => u w i) (fun i : Fin n => u w i) := by
    ext i j
    simp only [toM, hK i j i.2 j.2, sumQ_range_fin, Matrix.sum_apply, Matrix.smul_apply, vecMulVec_apply,
      smul_eq_mul, mul_assoc]
  rw [this]
  exact trace_outer_sum_nonneg _ _ (toM_Hf_transpose n) (PSD_toM n L hL) _ _ (fun w => hc w)

theorem getD_map_row (ms : List (List Rat)) (p a : Nat) :
    (ms.map fun row => row.getD p 0).getD a 0 = (ms.getD a []).getD p 0 :=
  List.getD_map ms [] fun row : List Rat => row.getD p 0

/-- index bookkeeping of `transpose → reshape → … → reshape → transpose`: cell `p` comes back to `p` -/
theorem cell_roundtrip (g p : Nat) (hp : p < g * g) :
    let k := (p % g) * g + p / g
    k < g * g ∧ (k % g) * g + k / g = p := by
  have h1 : p / g < g := Nat.div_lt_of_lt_mul hp
  have h2 : p % g < g := Nat.mod_lt _ (Nat.zero_lt_of_lt h1)
  exact ⟨rm_lt h2 h1, by rw [rm_mod _ h1, rm_div _ h1, Nat.div_add_mod']⟩

end Xp.Hsic
