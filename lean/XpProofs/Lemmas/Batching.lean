import XpModel.Basic
-- `chunkSizes_sum` is stated with `List.sum` over `ℕ`: its `Zero ℕ` instance is the one this module provides
import Mathlib.Algebra.GroupWithZero.Nat
import XpProofs.Lemmas.Index

/-! `batches` (`tf.data.Dataset.batch`), operator batching and the `while total < nb_samples` chunk sizes:
    the lemmas through which every batching proof of the development goes. -/
namespace Xp
variable {α β : Type}

/-! The two equations of `batches`; the inductions below follow them through `batches.induct`. -/

theorem batches_stop (b : Nat) (xs : List α) (h : b = 0 ∨ xs = []) : batches b xs = [] := by
  rw [batches, dif_pos h]

theorem batches_go (b : Nat) (xs : List α) (h : ¬(b = 0 ∨ xs = [])) :
    batches b xs = xs.take b :: batches b (xs.drop b) := by
  rw [batches, dif_neg h]

theorem batches_nil (b : Nat) : batches b ([] : List α) = [] :=
  batches_stop b [] (Or.inr rfl)

theorem batches_cons (b : Nat) (hb : 0 < b) (xs : List α) (hx : xs ≠ []) :
    batches b xs = xs.take b :: batches b (xs.drop b) :=
  batches_go b xs fun h => h.elim (Nat.ne_of_gt hb) hx

theorem flatten_batches (b : Nat) (hb : 0 < b) (xs : List α) : (batches b xs).flatten = xs := by
  induction xs using batches.induct b with
  | case1 xs h =>
    obtain rfl : xs = [] := h.resolve_left (Nat.ne_of_gt hb)
    rw [batches_nil, List.flatten_nil]
  | case2 xs h ih =>
    rw [batches_go b xs h, List.flatten_cons, ih, List.take_append_drop]

theorem batch_len_le (b : Nat) (xs : List α) : ∀ c ∈ batches b xs, c.length ≤ b ∧ 0 < c.length := by
  induction xs using batches.induct b with
  | case1 xs h => rw [batches_stop b xs h]; exact fun _ hc => (List.not_mem_nil hc).elim
  | case2 xs h ih =>
    rw [batches_go b xs h]
    intro c hc
    rcases List.mem_cons.mp hc with rfl | hc
    · rw [List.length_take]
      exact ⟨Nat.min_le_left .., Nat.lt_min.mpr ⟨Nat.pos_of_ne_zero fun e => h (Or.inl e),
        List.length_pos_iff.mpr fun e => h (Or.inr e)⟩⟩
    · exact ih c hc

theorem batches_map (b : Nat) (F : α → β) (xs : List α) :
    batches b (xs.map F) = (batches b xs).map (List.map F) := by
  induction xs using batches.induct b with
  | case1 xs h =>
    rw [batches_stop b xs h, batches_stop b _ (h.imp_right fun e => by rw [e, List.map_nil]), List.map_nil]
  | case2 xs h ih =>
    rw [batches_go b xs h, batches_go b _ fun h' => h (h'.imp_right List.map_eq_nil_iff.mp),
      List.map_cons, List.map_take, ← List.map_drop, ih]

theorem batches_append_uniform (c : Nat) (hc : 0 < c) (l rest : List α) (hl : l.length = c) :
    batches c (l ++ rest) = l :: batches c rest := by
  rw [batches_cons c hc _ (by rintro h; rw [(List.append_eq_nil_iff.mp h).1] at hl; exact Nat.ne_of_gt hc hl.symm),
    List.take_left' hl, List.drop_left' hl]

/-- `reshape (n, b)` undoes the concatenation of `n` blocks of `b` values -/
theorem batches_flatten_uniform (b : Nat) (hb : 0 < b) (L : List (List α)) (hL : ∀ l ∈ L, l.length = b) :
    batches b L.flatten = L := by
  induction L with
  | nil => exact batches_nil b
  | cons l L ih =>
    rw [List.flatten_cons, batches_append_uniform b hb l _ (hL l List.mem_cons_self),
      ih fun l' h' => hL l' (List.mem_cons_of_mem _ h')]

theorem batches_flatMap_uniform (c : Nat) (hc : 0 < c) (f : α → List β) (l : List α)
    (hf : ∀ a ∈ l, (f a).length = c) : batches c (l.flatMap f) = l.map f := by
  rw [List.flatMap_def, batches_flatten_uniform c hc]
  intro l' hl
  obtain ⟨a, ha, rfl⟩ := List.mem_map.mp hl
  exact hf a ha

theorem getElem?_batches (b : Nat) (hb : 0 < b) (xs : List α) (i : Nat) :
    (batches b xs)[i]? = if i * b < xs.length then some ((xs.drop (i * b)).take b) else none := by
  induction xs using batches.induct b generalizing i with
  | case1 xs h =>
    obtain rfl : xs = [] := h.resolve_left (Nat.ne_of_gt hb)
    rw [batches_nil]
    exact (if_neg (Nat.not_lt_zero _)).symm
  | case2 xs h ih =>
    rw [batches_go b xs h]
    cases i with
    | zero =>
      rw [List.getElem?_cons_zero, Nat.zero_mul, if_pos (List.length_pos_iff.mpr fun e => h (Or.inr e)), List.drop_zero]
    | succ i =>
      rw [List.getElem?_cons_succ, ih, List.length_drop, List.drop_drop, Nat.succ_mul, Nat.add_comm (i * b) b]
      exact if_congr Nat.lt_sub_iff_add_lt' rfl rfl

theorem lt_length_batches (b : Nat) (hb : 0 < b) (xs : List α) (i : Nat) :
    i < (batches b xs).length ↔ i * b < xs.length := by
  have h := getElem?_batches b hb xs i
  split at h
  · exact iff_of_true (List.getElem?_eq_some_iff.mp h).1 ‹_›
  · exact iff_of_false (Nat.not_lt.mpr (List.getElem?_eq_none_iff.mp h)) ‹_›

theorem batches_getD (b : Nat) (hb : 0 < b) (xs : List α) (i : Nat) :
    (batches b xs).getD i [] = (xs.drop (i * b)).take b := by
  rw [List.getD_eq_getElem?_getD, getElem?_batches b hb]
  split
  · rfl
  · rw [List.drop_eq_nil_of_le (by omega), List.take_nil]; rfl

theorem batches_self (xs : List α) (hne : xs ≠ []) : batches xs.length xs = [xs] := by
  rw [batches_cons _ (List.length_pos_iff.mpr hne) xs hne, List.take_length, List.drop_length, batches_nil]

/-- where the rows of `range n` sit in its batches -/
theorem batches_range_pos (n b : Nat) (hb : 0 < b) (bi p : Nat)
    (hp : p < ((batches b (List.range n)).getD bi []).length) :
    ((batches b (List.range n)).getD bi []).getD p 0 = bi * b + p ∧ p < b ∧ bi * b + p < n := by
  rw [batches_getD b hb] at hp ⊢
  rw [List.length_take, List.length_drop, List.length_range, Nat.lt_min, Nat.lt_sub_iff_add_lt'] at hp
  refine ⟨?_, hp.1, hp.2⟩
  rw [List.getD_eq_getElem?_getD, List.getElem?_take_of_lt hp.1, List.getElem?_drop, List.getElem?_range hp.2]
  rfl

theorem range_map_batch (b : Nat) (hb : 0 < b) (xs : List α) :
    (List.range (batches b xs).length).map (fun i => (xs.drop (i * b)).take b) = batches b xs :=
  (List.map_congr_left fun i _ => (batches_getD b hb xs i).symm).trans (range_map_getD _ [])

/-- Python's `ceil(len / b)` (after translation `-((-len) fdiv b)`) is the number of batches -/
theorem ceil_eq_length_batches (b : Nat) (hb : 0 < b) (xs : List α) :
    (-(Int.fdiv (-(xs.length : Int)) (b : Int))).toNat = (batches b xs).length := by
  refine eq_of_forall_lt_iff fun i => ?_
  rw [lt_length_batches b hb, Int.lt_toNat, lt_ceil_iff _ _ _ (Int.natCast_pos.mpr hb), ← Int.natCast_mul,
    Int.ofNat_lt]

theorem flatMap_batches_map (b : Nat) (hb : 0 < b) (F : α → β) (l : List α) :
    (batches b l).flatMap (fun ch => ch.map F) = l.map F := by
  rw [List.flatMap_def, ← List.map_flatten, flatten_batches b hb]

theorem batched_eq_map (op : List α → List β) (f : α → β) (hop : ∀ xs, op xs = xs.map f)
    (bs : Option Nat) (hb : ∀ b, bs = some b → 0 < b) (xs : List α) : batched op bs xs = xs.map f := by
  obtain rfl : op = List.map f := funext hop
  cases bs with
  | none => rfl
  | some b => exact (List.flatMap_def ..).symm.trans (flatMap_batches_map b (hb b rfl) f xs)

/-! The batch-size argument of the models is `none` (one batch) or `some b`; theorems take it with the side
    condition `∀ b, bs = some b → 0 < b`. -/

theorem bsPos_some {b : Nat} (hb : 0 < b) : ∀ b', some b = some b' → 0 < b' :=
  fun _ h => Option.some.inj h ▸ hb

theorem bsPos_none : ∀ b', (none : Option Nat) = some b' → 0 < b' :=
  fun _ h => nomatch h

theorem effBatch_pos (bs : Option Nat) (hbs : ∀ b, bs = some b → 0 < b) (n : Nat) (hn : 0 < n) :
    0 < effBatch bs n := by
  cases bs with
  | none => exact hn
  | some b => exact hbs b rfl

theorem bs_indep_of_spec {ρ : Type} (impl : Option Nat → ρ) (spec : ρ)
    (h : ∀ bs, (∀ b, bs = some b → 0 < b) → impl bs = spec) {b : Nat} (hb : 0 < b) :
    impl (some b) = impl none :=
  (h _ (bsPos_some hb)).trans (h _ bsPos_none).symm

theorem batched_bs_indep (op : List α → List β) (f : α → β) (hop : ∀ xs, op xs = xs.map f)
    (b : Nat) (hb : 0 < b) (xs : List α) : batched op (some b) xs = batched op none xs :=
  bs_indep_of_spec (fun bs => batched op bs xs) _ (fun bs hbs => batched_eq_map op f hop bs hbs xs) hb

theorem chunkSizes_stop (pbs nb : Nat) (h : pbs = 0 ∨ nb = 0) : chunkSizes pbs nb = [] := by
  rw [chunkSizes, dif_pos h]

theorem chunkSizes_go (pbs nb : Nat) (h : ¬(pbs = 0 ∨ nb = 0)) :
    chunkSizes pbs nb = min pbs nb :: chunkSizes pbs (nb - min pbs nb) := by
  rw [chunkSizes, dif_neg h]

theorem chunkSizes_zero (pbs : Nat) : chunkSizes pbs 0 = [] :=
  chunkSizes_stop pbs 0 (Or.inr rfl)

theorem chunkSizes_pos (pbs n : Nat) (hp : 0 < pbs) (hn : 0 < n) :
    chunkSizes pbs n = min pbs n :: chunkSizes pbs (n - min pbs n) :=
  chunkSizes_go pbs n (by omega)

/-- one iteration of a `while total < nb` loop with chunk `min pbs (nb - tot)`: the chunk holds at least one
    element, so one unit of fuel pays for it -/
theorem chunk_fuel {pbs nb tot fuel : Nat} (hp : 0 < pbs) (ht : tot < nb) (h : nb - tot ≤ fuel + 1) :
    nb - (tot + min pbs (nb - tot)) ≤ fuel := by
  have hc : 0 < min pbs (nb - tot) := Nat.lt_min.mpr ⟨hp, Nat.sub_pos_of_lt ht⟩
  rw [Nat.sub_add_eq]
  exact Nat.le_of_lt_succ (Nat.lt_of_lt_of_le (Nat.sub_lt (Nat.sub_pos_of_lt ht) hc) h)

theorem chunkSizes_sum (pbs nb : Nat) (h : 0 < pbs) : (chunkSizes pbs nb).sum = nb := by
  induction nb using chunkSizes.induct pbs with
  | case1 nb h' => rw [chunkSizes_stop pbs nb h', List.sum_nil]; exact (h'.resolve_left (Nat.ne_of_gt h)).symm
  | case2 nb h' c ih => rw [chunkSizes_go pbs nb h', List.sum_cons, ih]; exact Nat.add_sub_cancel' (Nat.min_le_right ..)

theorem chunkSizes_le (pbs nb : Nat) : ∀ c ∈ chunkSizes pbs nb, 0 < c ∧ c ≤ pbs := by
  induction nb using chunkSizes.induct pbs with
  | case1 nb h' => rw [chunkSizes_stop pbs nb h']; exact fun _ hc => (List.not_mem_nil hc).elim
  | case2 nb h' c ih =>
    rw [chunkSizes_go pbs nb h']
    intro c hc
    rcases List.mem_cons.mp hc with rfl | hc
    · exact ⟨Nat.lt_min.mpr ⟨Nat.pos_of_ne_zero fun e => h' (Or.inl e), Nat.pos_of_ne_zero fun e => h' (Or.inr e)⟩,
        Nat.min_le_left ..⟩
    · exact ih c hc

end Xp
